-- in reading order: definitions with their lemmas first, then the property files by number
import InfOCFModel.Basic
import InfOCFModel.Lists
import InfOCFModel.Tol
import InfOCFModel.Ocf
import InfOCFModel.Ext
import InfOCFModel.Run
import InfOCFModel.Z
import InfOCFModel.W
import InfOCFModel.Lex
import InfOCFModel.Incl
import InfOCFModel.SysP
import InfOCFModel.CW
import InfOCFModel.CRep
import InfOCFModel.CSpec
import InfOCFModel.Rank
import InfOCFModel.CRepModel
import InfOCFModel.CCert
import InfOCFModel.LinCert
import InfOCFModel.Mcs
import InfOCFModel.RemoveSup
import InfOCFModel.Cnf
import InfOCFModel.Ops
import InfOCFModel.Diag
import InfOCFModel.Manager
import InfOCFModel.Budget
import InfOCFModel.Persist
import InfOCFModel.Parser
import InfOCFModel.Lexer
import InfOCFModel.Props.Common
import InfOCFModel.Props.C01
import InfOCFModel.Props.C02
import InfOCFModel.Props.C03
import InfOCFModel.Props.C04
import InfOCFModel.Props.C05
import InfOCFModel.Props.C05cert
import InfOCFModel.Props.C06
import InfOCFModel.Props.C07
import InfOCFModel.Props.C07P
import InfOCFModel.Props.C08
import InfOCFModel.Props.C09
import InfOCFModel.Props.C10
import InfOCFModel.Props.C10lex
import InfOCFModel.Props.C10sound
import InfOCFModel.Props.C10text
import InfOCFModel.Props.C10complete
import InfOCFModel.Props.C10base
import InfOCFModel.Props.C11
import InfOCFModel.Props.C12
import InfOCFModel.Props.C12ren
import InfOCFModel.Props.C12c
import InfOCFModel.Props.C13
import InfOCFModel.Props.C14
import InfOCFModel.Props.C15
import InfOCFModel.Props.C16
import InfOCFModel.Props.C17
import InfOCFModel.Props.C17cert
import InfOCFModel.Props.C17loop
import InfOCFModel.Props.C18
import InfOCFModel.Props.C19
import InfOCFModel.Props.C19cert
import InfOCFModel.Props.C20
