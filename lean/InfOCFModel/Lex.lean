import InfOCFModel.W
/-!
Lexicographic inference. `lexVec layers w` lists, layer by layer (top-first), how many conditionals `w` falsifies;
`lexLt` compares such vectors and `specLex` is the `∀∃` specification. The recursion `algLex` looks at the
minimum-cardinality members of `famMin` only. It computes `specLex` (`algLex_eq_specLex`) because the least cardinality
in `famMin L H` is the least count over `H` (`minLen_le_cnt`, `minLen_attained`) and a lexicographically least
verifying world serves as the uniform witness (`specLex_least`).
-/
namespace InfOCF

def lexLt : List Nat → List Nat → Bool
  | a :: as, b :: bs => a < b || (a == b && lexLt as bs)
  | _, _ => false

def cnt (L : List Cond) (w : World) : Nat := (fset L w).length
def lexVec (layers : List (List Cond)) (w : World) : List Nat := layers.map (cnt · w)

def specLex (layers : List (List Cond)) (Hv Hf : List World) : Bool :=
  Hf.all fun w' => Hv.any fun w => lexLt (lexVec layers w) (lexVec layers w')

def minLen : List (List Cond) → Nat
  | [] => 0
  | [s] => s.length
  | s :: t => min s.length (minLen t)

/-- `LexInf._rec_inference` as repaired in /repo (defect D5): some minimum-cardinality verifying set beats every
minimum-cardinality falsifying set -/
def algLex : List (List Cond) → List World → List World → Bool
  | [], _, _ => false
  | L :: rest, Hv, Hf =>
    let Xv := famMin L Hv
    let Xf := famMin L Hf
    if Xv.isEmpty then false else if Xf.isEmpty then true else
    let mv := minLen Xv
    let mf := minLen Xf
    if mv < mf then true else if mf < mv then false else
    (Xv.filter (·.length == mv)).any fun xv => (Xf.filter (·.length == mf)).all fun xf =>
      algLex rest (Hv.filter (fset L · == xv)) (Hf.filter (fset L · == xf))

theorem lexLt_cons {a b : Nat} {as bs : List Nat} :
    lexLt (a :: as) (b :: bs) = true ↔ a < b ∨ a = b ∧ lexLt as bs = true := by
  simp only [lexLt, Bool.or_eq_true, decide_eq_true_eq, Bool.and_eq_true, beq_iff_eq]

theorem lexLt_irrefl (a : List Nat) : lexLt a a = false := by
  induction a with
  | nil => rfl
  | cons x xs ih =>
    exact Bool.eq_false_iff.mpr fun h => (lexLt_cons.mp h).elim (Nat.lt_irrefl x) fun e => ne_true_of_eq_false ih e.2

theorem lexLt_trans : ∀ a b c, lexLt a b = true → lexLt b c = true → lexLt a c = true := by
  intro a
  induction a with
  | nil => intro b c h; cases b <;> cases h
  | cons x xs ih =>
    intro b c h1 h2
    cases b with
    | nil => cases h1
    | cons y ys =>
      cases c with
      | nil => cases h2
      | cons z zs =>
        rw [lexLt_cons] at h1 h2 ⊢
        rcases h1 with h1 | ⟨rfl, h1⟩
        · exact .inl (h2.elim (Nat.lt_trans h1) fun e => e.1 ▸ h1)
        · exact h2.imp_right fun e => ⟨e.1, ih ys zs h1 e.2⟩

theorem lexLt_total (a b : List Nat) (h : a.length = b.length) : lexLt a b = true ∨ a = b ∨ lexLt b a = true := by
  induction a generalizing b with
  | nil => cases b with | nil => exact .inr (.inl rfl) | cons _ _ => cases h
  | cons x xs ih =>
    cases b with
    | nil => cases h
    | cons y ys =>
      rw [lexLt_cons, lexLt_cons, List.cons.injEq]
      rcases Nat.lt_trichotomy x y with hlt | rfl | hgt
      · exact .inl (.inl hlt)
      · rcases ih ys (Nat.succ.inj h) with h' | h' | h'
        · exact .inl (.inr ⟨rfl, h'⟩)
        · exact .inr (.inl ⟨rfl, h'⟩)
        · exact .inr (.inr (.inr ⟨rfl, h'⟩))
      · exact .inr (.inr (.inl hgt))

theorem lexLt_ge {a b : List Nat} (hl : a.length = b.length) (h : lexLt a b = false) :
    b = a ∨ lexLt b a = true :=
  (lexLt_total a b hl).elim (fun h' => nomatch h.symm.trans h') (.imp_left Eq.symm)

theorem lexLt_of_le_of_lt {a b c : List Nat} (hl : b.length = a.length) (hab : lexLt b a = false)
    (hbc : lexLt b c = true) : lexLt a c = true :=
  (lexLt_ge hl hab).elim (· ▸ hbc) (lexLt_trans _ _ _ · hbc)

theorem lexLt_of_lt_of_le {a b c : List Nat} (hl : c.length = b.length) (hab : lexLt a b = true)
    (hbc : lexLt c b = false) : lexLt a c = true :=
  (lexLt_ge hl hbc).elim (· ▸ hab) (lexLt_trans _ _ _ hab)

theorem lexLt_negtrans {a b c : List Nat} (hab : a.length = b.length)
    (h1 : lexLt a b = false) (h2 : lexLt b c = false) : lexLt a c = false :=
  Bool.eq_false_iff.mpr fun h => ne_true_of_eq_false h2 (lexLt_of_le_of_lt hab h1 h)

theorem exists_lexmin (vec : World → List Nat) (n : Nat) (hlen : ∀ w, (vec w).length = n) :
    ∀ (H : List World), H ≠ [] → ∃ m ∈ H, ∀ w ∈ H, lexLt (vec w) (vec m) = false := by
  intro H hH
  obtain ⟨a, ha⟩ := List.exists_mem_of_ne_nil H hH
  obtain ⟨m, hm, -, hmin⟩ := exists_minimal (lt := fun a b => lexLt (vec a) (vec b))
    (fun _ => lexLt_irrefl _) (fun _ _ _ => lexLt_trans _ _ _) (fun _ => True) H ⟨a, ha, trivial⟩
  exact ⟨m, hm, fun w hw => hmin w hw trivial⟩

theorem lexVec_cons (L : List Cond) (rest : List (List Cond)) (w : World) :
    lexVec (L :: rest) w = cnt L w :: lexVec rest w := rfl

theorem lexVec_length (layers : List (List Cond)) (w : World) : (lexVec layers w).length = layers.length :=
  List.length_map _

theorem specLex_iff {layers : List (List Cond)} {Hv Hf : List World} : specLex layers Hv Hf = true ↔
    ∀ w' ∈ Hf, ∃ w ∈ Hv, lexLt (lexVec layers w) (lexVec layers w') = true := by
  simp only [specLex, List.all_eq_true, List.any_eq_true]

theorem specLex_eq_prefEnt (T : List (List Cond)) (Ω : List World) (q : Cond) :
    specLex T (Ω.filter q.ver) (Ω.filter q.fal) = prefEnt Ω (fun w w' => lexLt (lexVec T w) (lexVec T w')) q := rfl

theorem specLex_least {layers : List (List Cond)} {Hv Hf : List World} (hv : Hv ≠ []) (h : specLex layers Hv Hf = true) :
    ∃ m ∈ Hv, (∀ w ∈ Hv, lexLt (lexVec layers w) (lexVec layers m) = false) ∧
      ∀ w' ∈ Hf, lexLt (lexVec layers m) (lexVec layers w') = true := by
  obtain ⟨m, hm, hmin⟩ := exists_lexmin _ _ (lexVec_length layers) Hv hv
  refine ⟨m, hm, hmin, fun w' hw' => ?_⟩
  obtain ⟨w, hw, hlt⟩ := specLex_iff.mp h w' hw'
  exact lexLt_of_le_of_lt ((lexVec_length _ w).trans (lexVec_length _ m).symm) (hmin w hw) hlt

theorem specLex_nil {layers : List (List Cond)} {Hf : List World} (hf : Hf ≠ []) : specLex layers [] Hf = false := by
  obtain ⟨w', hw'⟩ := List.exists_mem_of_ne_nil Hf hf
  refine Bool.eq_false_iff.mpr fun h => ?_
  obtain ⟨w, hw, _⟩ := specLex_iff.mp h w' hw'
  cases hw

theorem specLex_cons {L : List Cond} {rest : List (List Cond)} {Hv Hf : List World} :
    specLex (L :: rest) Hv Hf = true ↔ ∀ w' ∈ Hf, ∃ w ∈ Hv,
      cnt L w < cnt L w' ∨ cnt L w = cnt L w' ∧ lexLt (lexVec rest w) (lexVec rest w') = true := by
  simp only [specLex_iff, lexVec_cons, lexLt_cons]

theorem minLen_eq_min? {X : List (List Cond)} (h : X ≠ []) : (X.map List.length).min? = some (minLen X) := by
  induction X with
  | nil => exact absurd rfl h
  | cons s t ih =>
    cases t with
    | nil => rfl
    | cons b t' => rw [List.map_cons, List.min?_cons, ih (List.cons_ne_nil b t')]; rfl

theorem minLen_le_mem {X : List (List Cond)} {s : List Cond} (hs : s ∈ X) : minLen X ≤ s.length :=
  (List.min?_eq_some_iff.mp (minLen_eq_min? (List.ne_nil_of_mem hs))).2 _ (List.mem_map_of_mem hs)

theorem minLen_mem {X : List (List Cond)} (h : X ≠ []) : ∃ s ∈ X, s.length = minLen X :=
  List.mem_map.mp (List.min?_eq_some_iff.mp (minLen_eq_min? h)).1

theorem minLen_le_cnt {L : List Cond} {H : List World} (w : World) (hw : w ∈ H) :
    minLen (famMin L H) ≤ cnt L w := by
  obtain ⟨s, hs, hsub⟩ := famMin_below L hw
  obtain ⟨w0, _, rfl⟩ := famMin_real hs
  exact Nat.le_trans (minLen_le_mem hs) (fset_sublist_of_subset hsub).length_le

theorem minLen_attained (L : List Cond) {H : List World} (h : H ≠ []) :
    ∃ w ∈ H, cnt L w = minLen (famMin L H) := by
  obtain ⟨s, hs, hl⟩ := minLen_mem (famMin_ne_nil L h)
  obtain ⟨w, hw, rfl⟩ := famMin_real hs
  exact ⟨w, hw, hl⟩

theorem mem_minsets {L : List Cond} {H : List World} (w : World) (hw : w ∈ H)
    (hc : cnt L w = minLen (famMin L H)) :
    fset L w ∈ (famMin L H).filter (·.length == minLen (famMin L H)) :=
  List.mem_filter.mpr
    ⟨fset_mem_famMin hw fun y hy _ => Nat.le_trans (Nat.le_of_eq hc) (minLen_le_cnt y hy), beq_iff_eq.mpr hc⟩

theorem mem_minsets_iff {L : List Cond} {H : List World} {s : List Cond} :
    s ∈ (famMin L H).filter (·.length == minLen (famMin L H)) ↔
      ∃ w ∈ H, fset L w = s ∧ cnt L w = minLen (famMin L H) := by
  constructor
  · intro h
    obtain ⟨hs, hl⟩ := List.mem_filter.mp h
    obtain ⟨w, hw, rfl⟩ := famMin_real hs
    exact ⟨w, hw, rfl, eq_of_beq hl⟩
  · rintro ⟨w, hw, rfl, hc⟩
    exact mem_minsets w hw hc

theorem algLex_eq_specLex : ∀ (layers : List (List Cond)) (Hv Hf : List World), Hf ≠ [] →
    algLex layers Hv Hf = specLex layers Hv Hf := by
  intro layers
  induction layers with
  | nil =>
    intro Hv Hf hf
    obtain ⟨w', hw'⟩ := List.exists_mem_of_ne_nil Hf hf
    refine (Bool.eq_false_iff.mpr fun h => ?_).symm
    obtain ⟨w, _, hlt⟩ := specLex_iff.mp h w' hw'
    cases hlt
  | cons L rest ih =>
    intro Hv Hf hf
    have hfilt : ∀ {H : List World} {w}, w ∈ H → w ∈ H.filter (fset L · == fset L w) :=
      fun hw => List.mem_filter.mpr ⟨hw, BEq.rfl⟩
    by_cases hv : Hv = []
    · rw [hv, specLex_nil hf]; rfl
    rw [Bool.eq_iff_iff, specLex_cons]
    simp only [algLex]
    rw [if_neg (mt famMin_nil_iff.mp hv), if_neg (mt famMin_nil_iff.mp hf)]
    obtain ⟨wv, hwv, hcv⟩ := minLen_attained L hv
    obtain ⟨wf, hwf, hcf⟩ := minLen_attained L hf
    by_cases h1 : minLen (famMin L Hv) < minLen (famMin L Hf)
    · rw [if_pos h1]
      exact iff_of_true rfl fun w' hw' =>
        ⟨wv, hwv, .inl (Nat.lt_of_le_of_lt (Nat.le_of_eq hcv) (Nat.lt_of_lt_of_le h1 (minLen_le_cnt w' hw')))⟩
    rw [if_neg h1]
    by_cases h2 : minLen (famMin L Hf) < minLen (famMin L Hv)
    · rw [if_pos h2]
      refine iff_of_false Bool.false_ne_true fun h => ?_
      obtain ⟨w, hw, h⟩ := h wf hwf
      have hle : cnt L w ≤ cnt L wf := h.elim Nat.le_of_lt fun e => Nat.le_of_eq e.1
      exact Nat.lt_irrefl _ (Nat.lt_of_lt_of_le (hcf ▸ h2) (Nat.le_trans (minLen_le_cnt w hw) hle))
    rw [if_neg h2, List.any_eq_true]
    have heq := Nat.le_antisymm (Nat.le_of_not_lt h2) (Nat.le_of_not_lt h1)
    constructor
    · -- alg ⇒ spec
      rintro ⟨xv, hxv, hall⟩ w' hw'
      obtain ⟨wx, hwx, rfl, hcx⟩ := mem_minsets_iff.mp hxv
      rcases Nat.eq_or_lt_of_le (minLen_le_cnt (L := L) w' hw') with hc | hc
      · have hrec := List.all_eq_true.mp hall _ (mem_minsets w' hw' hc.symm)
        rw [ih _ _ (List.ne_nil_of_mem (hfilt hw'))] at hrec
        obtain ⟨w, hw, hlt⟩ := specLex_iff.mp hrec w' (hfilt hw')
        obtain ⟨hw, hws⟩ := List.mem_filter.mp hw
        exact ⟨w, hw, .inr ⟨(congrArg List.length (eq_of_beq hws)).trans (hcx.trans (heq.trans hc)), hlt⟩⟩
      · exact ⟨wx, hwx, .inl (Nat.lt_of_le_of_lt (Nat.le_of_eq (hcx.trans heq)) hc)⟩
    · -- spec ⇒ alg : take the set of a lexicographically least verifying world; its first component is the minimum
      intro h
      obtain ⟨m, hm, -, hall⟩ := specLex_least hv (specLex_cons.mpr h)
      have hall := fun w' hw' => lexLt_cons.mp (hall w' hw')
      have hmc : cnt L m = minLen (famMin L Hv) := Nat.le_antisymm
        (calc cnt L m ≤ cnt L wf := (hall wf hwf).elim Nat.le_of_lt fun e => Nat.le_of_eq e.1
          _ = minLen (famMin L Hv) := hcf.trans heq.symm)
        (minLen_le_cnt m hm)
      refine ⟨fset L m, mem_minsets m hm hmc, List.all_eq_true.mpr fun xf hxf => ?_⟩
      obtain ⟨w0, hw0, rfl, hc0⟩ := mem_minsets_iff.mp hxf
      rw [ih _ _ (List.ne_nil_of_mem (hfilt hw0)), specLex_iff]
      intro w' hw'
      obtain ⟨hw', hw's⟩ := List.mem_filter.mp hw'
      have hcw' : cnt L w' = minLen (famMin L Hf) := (congrArg List.length (eq_of_beq hw's)).trans hc0
      rcases hall w' hw' with h' | ⟨_, h'⟩
      · exact absurd (hmc.trans (heq.trans hcw'.symm)) (Nat.ne_of_lt h')
      · exact ⟨m, hfilt hm, h'⟩

end InfOCF
