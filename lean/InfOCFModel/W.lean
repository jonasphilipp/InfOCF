import InfOCFModel.Ocf
/-!
System W. `fset L w` is the set of conditionals of layer `L` that `w` falsifies; `wless` compares two worlds layer by
layer, top-first, by inclusion of these sets; `specW` is the `∀∃` specification. `famMin` is the contract of one optimizer
call (the inclusion-minimal falsification sets over a world list), and the recursion `algW` over such calls computes
`specW` (`algW_eq_specW`).
-/
namespace InfOCF

def fset (L : List Cond) (w : World) : List Cond := L.filter (·.fal w)
def subsetL (a b : List Cond) : Bool := a.all (b.contains ·)

theorem subsetL_iff {a b : List Cond} : subsetL a b = true ↔ ∀ x ∈ a, x ∈ b := by
  simp only [subsetL, List.all_eq_true, List.contains_iff_mem]

theorem subsetL_refl (a : List Cond) : subsetL a a = true := subsetL_iff.mpr fun _ h => h
theorem subsetL_trans {a b c : List Cond} (h1 : subsetL a b = true) (h2 : subsetL b c = true) :
    subsetL a c = true :=
  subsetL_iff.mpr fun x hx => subsetL_iff.mp h2 x (subsetL_iff.mp h1 x hx)

theorem mem_fset {L : List Cond} {w : World} {c : Cond} : c ∈ fset L w ↔ c ∈ L ∧ c.fal w = true := List.mem_filter

theorem fset_eq_iff {L : List Cond} {w w' : World} :
    fset L w = fset L w' ↔ ∀ c ∈ L, c.fal w = c.fal w' := by
  refine ⟨fun h c hc => ?_, fun h => List.filter_congr h⟩
  have hm : c ∈ fset L w ↔ c ∈ fset L w' := by rw [h]
  simp only [mem_fset, hc, true_and] at hm
  exact Bool.eq_iff_iff.mpr hm

theorem subset_fset_iff {L : List Cond} {w w' : World} :
    subsetL (fset L w) (fset L w') = true ↔ ∀ c ∈ L, c.fal w = true → c.fal w' = true := by
  simp only [subsetL_iff, mem_fset, and_imp]
  exact ⟨fun h c hc hf => (h c hc hf).2, fun h c hc hf => ⟨hc, h c hc hf⟩⟩

theorem fset_eq_nil_iff {L : List Cond} {w : World} : fset L w = [] ↔ nofal L w = true := by
  simp only [fset, List.filter_eq_nil_iff, nofal_iff_forall, Bool.not_eq_true]

theorem fset_antisymm {L : List Cond} {w w' : World}
    (h1 : subsetL (fset L w) (fset L w') = true) (h2 : subsetL (fset L w') (fset L w) = true) :
    fset L w = fset L w' :=
  fset_eq_iff.mpr fun c hc => Bool.eq_iff_iff.mpr ⟨subset_fset_iff.mp h1 c hc, subset_fset_iff.mp h2 c hc⟩

theorem fset_append (a b : List Cond) (w : World) : fset (a ++ b) w = fset a w ++ fset b w := List.filter_append ..

theorem fset_nodup {L : List Cond} (hL : L.Nodup) (w : World) : (fset L w).Nodup :=
  List.Nodup.sublist List.filter_sublist hL

theorem fset_sublist_of_subset {L : List Cond} {w w' : World} (h : subsetL (fset L w) (fset L w') = true) :
    (fset L w).Sublist (fset L w') := by
  rw [fset, filter_eq_filter_filter (subset_fset_iff.mp h)]
  exact List.filter_sublist

/-- layers top-first -/
def wless : List (List Cond) → World → World → Bool
  | [], _, _ => false
  | L :: rest, w, w' =>
    if fset L w = fset L w' then wless rest w w' else subsetL (fset L w) (fset L w')

def specW (layersTop : List (List Cond)) (Hv Hf : List World) : Bool :=
  Hf.all fun w' => Hv.any fun w => wless layersTop w w'

theorem wless_cons {L : List Cond} {rest : List (List Cond)} {w w' : World} :
    wless (L :: rest) w w' = true ↔ fset L w = fset L w' ∧ wless rest w w' = true ∨
      fset L w ≠ fset L w' ∧ subsetL (fset L w) (fset L w') = true := by
  rw [wless]; split <;> simp [*]

theorem wless_irrefl (T : List (List Cond)) (w : World) : wless T w w = false := by
  induction T with
  | nil => rfl
  | cons L rest ih => simp [wless, ih]

theorem wless_trans (T : List (List Cond)) (a b c : World) (hab : wless T a b = true) (hbc : wless T b c = true) :
    wless T a c = true := by
  induction T with
  | nil => cases hab
  | cons L rest ih =>
    rw [wless_cons] at hab hbc ⊢
    rcases hab with ⟨e1, r1⟩ | ⟨n1, s1⟩ <;> rcases hbc with ⟨e2, r2⟩ | ⟨n2, s2⟩
    · exact Or.inl ⟨e1.trans e2, ih r1 r2⟩
    · exact Or.inr ⟨e1 ▸ n2, e1 ▸ s2⟩
    · exact Or.inr ⟨e2 ▸ n1, e2 ▸ s1⟩
    · exact Or.inr ⟨fun e => n1 (fset_antisymm s1 (e ▸ s2)), subsetL_trans s1 s2⟩

theorem wless_append_of_eq {pre rest : List (List Cond)} {w w' : World} (h : ∀ M ∈ pre, fset M w = fset M w') :
    wless (pre ++ rest) w w' = wless rest w w' := by
  induction pre with
  | nil => rfl
  | cons L pre ih =>
    obtain ⟨hL, hpre⟩ := List.forall_mem_cons.mp h
    rw [List.cons_append, wless, if_pos hL, ih hpre]

theorem specW_iff {T : List (List Cond)} {Hv Hf : List World} :
    specW T Hv Hf = true ↔ ∀ w' ∈ Hf, ∃ w ∈ Hv, wless T w w' = true := by
  simp only [specW, List.all_eq_true, List.any_eq_true]

theorem specW_eq_prefEnt (T : List (List Cond)) (Ω : List World) (q : Cond) :
    specW T (Ω.filter q.ver) (Ω.filter q.fal) = prefEnt Ω (wless T) q := rfl

/-- contract of one optimizer call -/
def famMin (L : List Cond) (H : List World) : List (List Cond) :=
  let fam := (H.map (fset L)).eraseDups
  fam.filter fun s => fam.all fun t => !(subsetL t s) || t == s

theorem mem_famMin {L : List Cond} {H : List World} {s : List Cond} :
    s ∈ famMin L H ↔ (∃ w ∈ H, fset L w = s) ∧ ∀ w ∈ H, subsetL (fset L w) s = true → fset L w = s := by
  rw [famMin, List.mem_filter, List.mem_eraseDups, List.mem_map,
    funext fun t => Bool.or_comm (!subsetL t s) (t == s), all_eq_or_not _ s (subsetL · s)]
  simp only [List.mem_eraseDups, List.forall_mem_map]

theorem famMin_real {L H s} (h : s ∈ famMin L H) : ∃ w ∈ H, fset L w = s := (mem_famMin.mp h).1

theorem famMin_min {L H s} (h : s ∈ famMin L H) :
    ∀ w ∈ H, subsetL (fset L w) s = true → fset L w = s := (mem_famMin.mp h).2

/-- both ways a member of `famMin` is found go through this: below a given world (`famMin_below`), of least cardinality
(`Lex.lean`) -/
theorem fset_mem_famMin {L : List Cond} {H : List World} {w : World} (hw : w ∈ H)
    (h : ∀ y ∈ H, subsetL (fset L y) (fset L w) = true → (fset L w).length ≤ (fset L y).length) :
    fset L w ∈ famMin L H :=
  mem_famMin.mpr ⟨⟨w, hw, rfl⟩, fun y hy hsub => (fset_sublist_of_subset hsub).eq_of_length_le (h y hy hsub)⟩

theorem famMin_below (L : List Cond) {H : List World} {w : World} (hw : w ∈ H) :
    ∃ s ∈ famMin L H, subsetL s (fset L w) = true := by
  obtain ⟨m, hm, hmw, hmin⟩ := exists_min_measure (fun y => (fset L y).length)
    (fun y => subsetL (fset L y) (fset L w) = true) H ⟨w, hw, subsetL_refl _⟩
  exact ⟨fset L m, fset_mem_famMin hm fun y hy hsub => hmin y hy (subsetL_trans hsub hmw), hmw⟩

theorem famMin_ne_nil (L : List Cond) {H : List World} (h : H ≠ []) : famMin L H ≠ [] := by
  obtain ⟨w, hw⟩ := List.exists_mem_of_ne_nil H h
  obtain ⟨s, hs, _⟩ := famMin_below L hw
  exact List.ne_nil_of_mem hs

theorem famMin_nil_iff {L : List Cond} {H : List World} : (famMin L H).isEmpty = true ↔ H = [] :=
  ⟨fun h => Classical.byContradiction fun hne => famMin_ne_nil L hne (List.isEmpty_iff.mp h), fun h => h ▸ rfl⟩

/-- model of `SystemW._rec_inference` (uniform form) -/
def algW : List (List Cond) → List World → List World → Bool
  | [], _, Hf => Hf.isEmpty
  | L :: rest, Hv, Hf =>
    let Xv := famMin L Hv
    let Xf := famMin L Hf
    (Xf.all fun b => Xv.any fun a => subsetL a b) &&
    (Xv.filter (Xf.contains ·)).all fun x =>
      algW rest (Hv.filter (fset L · == x)) (Hf.filter (fset L · == x))

theorem algW_eq_specW : ∀ (layers : List (List Cond)) (Hv Hf : List World),
    algW layers Hv Hf = specW layers Hv Hf := by
  intro layers
  induction layers with
  | nil =>
    intro Hv Hf
    cases Hf with
    | nil => rfl
    | cons w' t => simp [algW, specW, wless]
  | cons L rest ih =>
    intro Hv Hf
    have halg : algW (L :: rest) Hv Hf = true ↔
        (∀ b ∈ famMin L Hf, ∃ a ∈ famMin L Hv, subsetL a b = true) ∧
        ∀ x ∈ famMin L Hv, x ∈ famMin L Hf →
          ∀ w' ∈ Hf, fset L w' = x → ∃ w ∈ Hv, fset L w = x ∧ wless rest w w' = true := by
      simp only [algW, ih, specW_iff, Bool.and_eq_true, List.all_eq_true, List.any_eq_true, List.mem_filter,
        List.contains_iff_mem, beq_iff_eq, and_imp, and_assoc]
    -- whichever way `w <_w w'` is decided at the top layer, the set of `w` is included in that of `w'`
    have hsub : ∀ {w w'}, wless (L :: rest) w w' = true → subsetL (fset L w) (fset L w') = true := fun h =>
      (wless_cons.mp h).elim (fun h => h.1 ▸ subsetL_refl _) (·.2)
    rw [Bool.eq_iff_iff, halg, specW_iff]
    constructor
    · rintro ⟨hcover, hties⟩ w' hw'
      obtain ⟨b, hb, hbs⟩ := famMin_below L hw'
      obtain ⟨a, ha, hab⟩ := hcover b hb
      obtain ⟨w, hw, rfl⟩ := famMin_real ha
      by_cases heq : fset L w = fset L w'
      · -- tie: the minimal set `b` between the two equal sets is that set, and the lower layers decide
        obtain rfl := famMin_min hb w' hw' (heq ▸ hab)
        obtain ⟨w2, hw2, hw2a, hless⟩ := hties _ ha (heq ▸ hb) w' hw' heq.symm
        exact ⟨w2, hw2, wless_cons.mpr (Or.inl ⟨hw2a.trans heq, hless⟩)⟩
      · exact ⟨w, hw, wless_cons.mpr (Or.inr ⟨heq, subsetL_trans hab hbs⟩)⟩
    · intro hspec
      constructor
      · intro b hb
        obtain ⟨w', hw', rfl⟩ := famMin_real hb
        obtain ⟨w, hw, hless⟩ := hspec w' hw'
        obtain ⟨a, ha, has⟩ := famMin_below L hw
        exact ⟨a, ha, subsetL_trans has (hsub hless)⟩
      · rintro x hxv - w' hw' rfl
        obtain ⟨w, hw, hless⟩ := hspec w' hw'
        -- a set strictly included in the minimal set `fset L w'` does not exist
        exact ⟨w, hw, famMin_min hxv w hw (hsub hless),
          (wless_cons.mp hless).elim (·.2) fun h => absurd (famMin_min hxv w hw h.2) h.1⟩

end InfOCF
