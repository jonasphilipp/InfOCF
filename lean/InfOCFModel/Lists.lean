/-! Facts about finite lists used throughout: filters, lookups, minimal elements for an order and for a measure. -/
namespace InfOCF

theorem all_congr_mem {α} {l : List α} {p q : α → Bool} (h : ∀ x ∈ l, p x = q x) : l.all p = l.all q := by
  rw [Bool.eq_iff_iff, List.all_eq_true, List.all_eq_true]
  exact forall₂_congr fun x hx => by rw [h x hx]

theorem mem_concat_iff {α : Type} {l : List α} {a b : α} : a ∈ l ++ [b] ↔ a = b ∨ a ∈ l :=
  List.mem_append.trans (or_comm.trans (or_congr_left List.mem_singleton))

theorem contains_filter {α : Type} [BEq α] [LawfulBEq α] {l : List α} {a : α} (h : a ∈ l) (p : α → Bool) :
    (l.filter p).contains a = p a := by
  rw [Bool.eq_iff_iff, List.contains_iff_mem, List.mem_filter]; exact and_iff_right h

theorem find?_key {α β : Type} [BEq α] [LawfulBEq α] {l : List (α × β)} {k : α} {p : α × β}
    (h : l.find? (·.1 == k) = some p) : p.1 = k ∧ p ∈ l :=
  ⟨eq_of_beq (List.find?_some (p := fun p : α × β => p.1 == k) h), List.mem_of_find?_eq_some h⟩

theorem nodup_subset_full {α : Type} {a b : List α} (ha : a.Nodup) (h : ∀ x ∈ a, x ∈ b) (hl : b.length ≤ a.length) :
    ∀ x ∈ b, x ∈ a := by
  intro x hx
  apply Classical.byContradiction
  intro hxa
  have := (List.nodup_cons.mpr ⟨hxa, ha⟩).length_le_of_subset (List.cons_subset.mpr ⟨hx, fun y hy => h y hy⟩)
  exact Nat.not_succ_le_self _ (Nat.le_trans this hl)

theorem filter_eq_filter_filter {α} {p q : α → Bool} {l : List α} (h : ∀ x ∈ l, p x = true → q x = true) :
    l.filter p = (l.filter q).filter p := by
  rw [List.filter_filter]
  exact List.filter_congr fun x hx => by cases hp : p x <;> simp [h x hx, hp]

theorem exists_minimal {α : Type} {lt : α → α → Bool} (irrefl : ∀ a, lt a a = false)
    (trans : ∀ a b c, lt a b = true → lt b c = true → lt a c = true) (p : α → Prop) (l : List α) :
    (∃ x ∈ l, p x) → ∃ m ∈ l, p m ∧ ∀ y ∈ l, p y → lt y m = false := by
  induction l with
  | nil => rintro ⟨_, h, _⟩; cases h
  | cons a t ih =>
    rintro ⟨x, hx, hpx⟩
    by_cases ht : ∃ x ∈ t, p x
    · obtain ⟨m, hm, hpm, hmin⟩ := ih ht
      by_cases ha : p a ∧ lt a m = true
      · exact ⟨a, List.mem_cons_self, ha.1, List.forall_mem_cons.mpr ⟨fun _ => irrefl a, fun y hy hpy =>
          Bool.eq_false_iff.mpr fun h => Bool.eq_false_iff.mp (hmin y hy hpy) (trans y a m h ha.2)⟩⟩
      · exact ⟨m, List.mem_cons_of_mem _ hm, hpm, List.forall_mem_cons.mpr
          ⟨fun hpa => Bool.eq_false_iff.mpr fun h => ha ⟨hpa, h⟩, hmin⟩⟩
    · have hxa : ∀ y ∈ a :: t, p y → y = a := fun y hy hpy =>
        (List.mem_cons.mp hy).resolve_right fun h => ht ⟨y, h, hpy⟩
      exact ⟨a, List.mem_cons_self, hxa x hx hpx ▸ hpx, fun y hy hpy => hxa y hy hpy ▸ irrefl a⟩

theorem exists_minimal_below {α : Type} {lt : α → α → Bool} (irrefl : ∀ a, lt a a = false)
    (trans : ∀ a b c, lt a b = true → lt b c = true → lt a c = true) (p : α → Prop) (l : List α)
    {x : α} (hx : x ∈ l) (hpx : p x) :
    ∃ m ∈ l, p m ∧ (m = x ∨ lt m x = true) ∧ ∀ y ∈ l, p y → lt y m = false := by
  obtain ⟨m, hm, ⟨hpm, hmx⟩, hmin⟩ :=
    exists_minimal irrefl trans (fun y => p y ∧ (y = x ∨ lt y x = true)) l ⟨x, hx, hpx, Or.inl rfl⟩
  refine ⟨m, hm, hpm, hmx, fun y hy hpy => ?_⟩
  refine Bool.eq_false_iff.mpr fun h => Bool.eq_false_iff.mp (hmin y hy ⟨hpy, Or.inr ?_⟩) h
  exact hmx.elim (fun e => e ▸ h) (trans y m x h)

theorem exists_min_measure {α : Type} (κ : α → Nat) (p : α → Prop) (l : List α) (h : ∃ x ∈ l, p x) :
    ∃ m ∈ l, p m ∧ ∀ y ∈ l, p y → κ m ≤ κ y := by
  obtain ⟨m, hm, hpm, hmin⟩ := exists_minimal (lt := fun a b => decide (κ a < κ b))
    (fun a => decide_eq_false (Nat.lt_irrefl _))
    (fun a b c h1 h2 => decide_eq_true (Nat.lt_trans (of_decide_eq_true h1) (of_decide_eq_true h2))) p l h
  exact ⟨m, hm, hpm, fun y hy hp => Nat.le_of_not_lt (of_decide_eq_false (hmin y hy hp))⟩

theorem minimal_iff_of_cover {α : Type} {le : α → α → Prop} {R Feas : α → Prop}
    (trans : ∀ a b c, le a b → le b c → le a c)
    (antisymm : ∀ a b, Feas a → Feas b → le a b → le b a → a = b)
    (hsub : ∀ x, R x → Feas x) (hcov : ∀ y, Feas y → ∃ x, R x ∧ le x y) (s : α) :
    (R s ∧ ∀ t, R t → le t s → t = s) ↔ (Feas s ∧ ∀ t, Feas t → le t s → t = s) := by
  constructor
  · rintro ⟨hs, hmin⟩
    refine ⟨hsub s hs, fun t ht hts => ?_⟩
    obtain ⟨x, hx, hxt⟩ := hcov t ht
    obtain rfl := hmin x hx (trans x t s hxt hts)
    exact antisymm t x ht (hsub x hx) hts hxt
  · rintro ⟨hs, hmin⟩
    obtain ⟨x, hx, hxs⟩ := hcov s hs
    obtain rfl := hmin x (hsub x hx) hxs
    exact ⟨hx, fun t ht => hmin t (hsub t ht)⟩

/-- the form of the code's minimality tests (`famMin`, the Pareto tests): every member with `Q` is `a` itself -/
theorem all_eq_or_not {α : Type} [BEq α] [LawfulBEq α] (l : List α) (a : α) (Q : α → Bool) :
    (l.all fun x => x == a || !(Q x)) = true ↔ ∀ x ∈ l, Q x = true → x = a := by
  simp only [List.all_eq_true, Bool.or_eq_true, beq_iff_eq, Bool.not_eq_true']
  refine forall₂_congr fun x _ => ?_
  cases Q x <;> simp

theorem all_filter_of_any_false {α : Type} {H : List α} {p : α → Bool} (f : α → Bool) (h : H.any p = false) :
    (H.filter p).all f = true := by
  rw [List.filter_eq_nil_iff.mpr (List.any_eq_false.mp h)]; rfl

theorem filter_ne_nil_of_any {α : Type} {H : List α} {p : α → Bool} (h : H.any p = true) : H.filter p ≠ [] := by
  obtain ⟨w, hw, hf⟩ := List.any_eq_true.mp h
  exact List.ne_nil_of_mem (List.mem_filter.mpr ⟨hw, hf⟩)

end InfOCF
