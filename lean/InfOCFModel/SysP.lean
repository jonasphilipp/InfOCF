import InfOCFModel.Basic
import InfOCFModel.Lists
namespace InfOCF

/-! Generic preferential entailment over a strict partial order on a finite world list, on formulas. -/

structure SPO where
  lt : World → World → Bool
  irrefl : ∀ w, lt w w = false
  trans : ∀ a b c, lt a b = true → lt b c = true → lt a c = true

def Ent (Ω : List World) (o : SPO) (A B : Fm) : Prop :=
  ∀ w' ∈ Ω, A.eval w' = true → B.eval w' = false →
    ∃ w ∈ Ω, A.eval w = true ∧ B.eval w = true ∧ o.lt w w' = true

def IsMin (Ω : List World) (o : SPO) (A : Fm) (m : World) : Prop :=
  m ∈ Ω ∧ A.eval m = true ∧ ∀ x ∈ Ω, A.eval x = true → o.lt x m = false

theorem exists_min_below (Ω : List World) (o : SPO) (A : Fm) :
    ∀ w ∈ Ω, A.eval w = true → ∃ m, IsMin Ω o A m ∧ (m = w ∨ o.lt m w = true) := by
  intro w hw hA
  obtain ⟨m, hm, hAm, hmw, hmin⟩ := exists_minimal_below o.irrefl o.trans (fun w => A.eval w = true) Ω hw hA
  exact ⟨m, ⟨hm, hAm, hmin⟩, hmw⟩

theorem ent_iff_min (Ω : List World) (o : SPO) (A B : Fm) :
    Ent Ω o A B ↔ ∀ m, IsMin Ω o A m → B.eval m = true := by
  constructor
  · rintro h m ⟨hm, hA, hmin⟩
    cases hB : B.eval m with
    | true => rfl
    | false =>
      obtain ⟨w, hw, hAw, _, hlt⟩ := h m hm hA hB
      rw [hmin w hw hAw] at hlt; cases hlt
  · intro h w' hw' hA hB
    obtain ⟨m, hm, hmw⟩ := exists_min_below Ω o A w' hw' hA
    have hBm := h m hm
    rcases hmw with rfl | hlt
    · rw [hBm] at hB; cases hB
    · exact ⟨m, hm.1, hm.2.1, hBm, hlt⟩

theorem REF (Ω o) (A : Fm) : Ent Ω o A A := by
  intro w' _ hA hnA; rw [hA] at hnA; cases hnA

theorem LLE (Ω o) (A A' B : Fm) (heq : ∀ w, A.eval w = A'.eval w) (h : Ent Ω o A B) : Ent Ω o A' B := by
  intro w' hw' hA hB
  obtain ⟨w, hw, h1, h2, h3⟩ := h w' hw' (by rw [heq]; exact hA) hB
  exact ⟨w, hw, by rw [← heq]; exact h1, h2, h3⟩

theorem RW (Ω o) (A B C : Fm) (himp : ∀ w, B.eval w = true → C.eval w = true) (h : Ent Ω o A B) :
    Ent Ω o A C := by
  rw [ent_iff_min] at h ⊢
  intro m hm; exact himp m (h m hm)

theorem AND (Ω o) (A B C : Fm) (h1 : Ent Ω o A B) (h2 : Ent Ω o A C) : Ent Ω o A (.and B C) := by
  rw [ent_iff_min] at h1 h2 ⊢
  exact fun m hm => Bool.and_eq_true_iff.mpr ⟨h1 m hm, h2 m hm⟩

theorem IsMin.of_imp {Ω : List World} {o : SPO} {A A' : Fm} {m : World} (h : IsMin Ω o A' m)
    (hA : A.eval m = true) (himp : ∀ x, A.eval x = true → A'.eval x = true) : IsMin Ω o A m :=
  ⟨h.1, hA, fun x hx hAx => h.2.2 x hx (himp x hAx)⟩

theorem OR (Ω o) (A B C : Fm) (h1 : Ent Ω o A C) (h2 : Ent Ω o B C) : Ent Ω o (.or A B) C := by
  rw [ent_iff_min] at h1 h2 ⊢
  intro m hm
  rcases Bool.or_eq_true_iff.mp hm.2.1 with hA | hB
  · exact h1 m (hm.of_imp hA fun _ h => Bool.or_eq_true_iff.mpr (Or.inl h))
  · exact h2 m (hm.of_imp hB fun _ h => Bool.or_eq_true_iff.mpr (Or.inr h))

theorem CUT (Ω o) (A B C : Fm) (h1 : Ent Ω o A B) (h2 : Ent Ω o (.and A B) C) : Ent Ω o A C := by
  rw [ent_iff_min] at h1 h2 ⊢
  exact fun m hm => h2 m (hm.of_imp (Bool.and_eq_true_iff.mpr ⟨hm.2.1, h1 m hm⟩)
    fun _ h => (Bool.and_eq_true_iff.mp h).1)

theorem CM (Ω o) (A B C : Fm) (h1 : Ent Ω o A B) (h2 : Ent Ω o A C) : Ent Ω o (.and A B) C := by
  rw [ent_iff_min] at h1 h2 ⊢
  rintro m ⟨hm, hAB, hmin⟩
  refine h2 m ⟨hm, (Bool.and_eq_true_iff.mp hAB).1, fun x hx hAx => Bool.eq_false_iff.mpr fun hlt => ?_⟩
  -- a minimal `A`-world at or below `x` satisfies `B`: an `A ∧ B`-world below `m`
  obtain ⟨m0, hm0, hm0x⟩ := exists_min_below Ω o A x hx hAx
  have hlt0 : o.lt m0 m = true := hm0x.elim (fun e => e ▸ hlt) fun h => o.trans _ _ _ h hlt
  exact ne_true_of_eq_false (hmin m0 hm0.1 (Bool.and_eq_true_iff.mpr ⟨hm0.2.1, h1 m0 hm0⟩)) hlt0

/-- the seven postulates of System P, for a relation on formulas: reflexivity, left logical equivalence,
right weakening, And, Or, cautious monotony, Cut -/
def SystemP (R : Fm → Fm → Prop) : Prop :=
  (∀ A, R A A) ∧
  (∀ A A' B, (∀ w, A.eval w = A'.eval w) → R A B → R A' B) ∧
  (∀ A B C, (∀ w, B.eval w = true → C.eval w = true) → R A B → R A C) ∧
  (∀ A B C, R A B → R A C → R A (.and B C)) ∧
  (∀ A B C, R A C → R B C → R (.or A B) C) ∧
  (∀ A B C, R A B → R A C → R (.and A B) C) ∧
  (∀ A B C, R A B → R (.and A B) C → R A C)

theorem ent_systemP (Ω : List World) (o : SPO) : SystemP (Ent Ω o) :=
  ⟨REF Ω o, LLE Ω o, RW Ω o, AND Ω o, OR Ω o, CM Ω o, CUT Ω o⟩

theorem SystemP.of_iff {R R' : Fm → Fm → Prop} (key : ∀ A B, R A B ↔ R' A B) (h : SystemP R') : SystemP R :=
  (funext fun A => funext fun B => propext (key A B) : R = R') ▸ h

/-- a minimal `A`-world `m0` satisfying `B` is not below a minimal `A ∧ B`-world `m`, and no `A`-world is below `m0` -/
theorem RM_modular (Ω : List World) (o : SPO)
    (hneg : ∀ a b c, o.lt a b = false → o.lt b c = false → o.lt a c = false)
    (A B C : Fm) (h1 : Ent Ω o A C) (h2 : ¬ Ent Ω o A (.neg B)) : Ent Ω o (.and A B) C := by
  rw [ent_iff_min] at h1 h2 ⊢
  obtain ⟨m0, h⟩ := Classical.not_forall.mp h2
  obtain ⟨hm0, hB0⟩ := Classical.not_imp.mp h
  have hB0 : B.eval m0 = true := by simpa [Fm.eval] using hB0
  rintro m ⟨hm, hAB, hmin⟩
  refine h1 m ⟨hm, (Bool.and_eq_true_iff.mp hAB).1, fun x hx hAx => ?_⟩
  exact hneg x m0 m (hm0.2.2 x hx hAx) (hmin m0 hm0.1 (Bool.and_eq_true_iff.mpr ⟨hm0.2.1, hB0⟩))

theorem RM_rank (Ω : List World) (r : World → Nat) (A B C : Fm)
    (o : SPO) (ho : ∀ a b, o.lt a b = decide (r a < r b))
    (h1 : Ent Ω o A C) (h2 : ¬ Ent Ω o A (.neg B)) : Ent Ω o (.and A B) C :=
  RM_modular Ω o (fun a b c => by simp only [ho, decide_eq_false_iff_not, Nat.not_lt]; exact fun h1 h2 => Nat.le_trans h2 h1)
    A B C h1 h2

end InfOCF
