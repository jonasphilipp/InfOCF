import InfOCFModel.Ocf
import InfOCFModel.W
namespace InfOCF

/-! c-inference ⊆ System W: for a falsifying world `w'` that no verifying world W-precedes we build a ranking `kapW w'`
    that (A) accepts every conditional of the partition (`kapW_accepts`) and (B) ranks every world that does not W-precede
    `w'`, so every verifying world, at least as high as `w'` (`kapW_sep`). Props/C08.lean shows it is a c-representation.
    Layers top-first. -/

/-- impact of conditional `c` of layer `L`, given the total `T` of all impacts in lower layers -/
def impW (w' : World) (T : Nat) (L : List Cond) (c : Cond) : Nat :=
  if c.fal w' then T + 1 else T + L.length * (T + 1) + 1

def sumL (l : List Nat) : Nat := l.foldr (· + ·) 0

def totalW (w' : World) : List (List Cond) → Nat
  | [] => 0
  | L :: lower => totalW w' lower + sumL (L.map (impW w' (totalW w' lower) L))

def kapW (w' : World) : List (List Cond) → World → Nat
  | [], _ => 0
  | L :: lower, w => sumL ((fset L w).map (impW w' (totalW w' lower) L)) + kapW w' lower w

theorem sumL_eq_sum (l : List Nat) : sumL l = l.sum := rfl

theorem sumL_append (a b : List Nat) : sumL (a ++ b) = sumL a + sumL b := List.sum_append_nat

theorem sumL_cons (a : Nat) (l : List Nat) : sumL (a :: l) = a + sumL l := rfl
theorem sumL_nil : sumL [] = 0 := rfl

theorem sumL_sublist_le {l₁ l₂ : List Nat} (h : l₁.Sublist l₂) : sumL l₁ ≤ sumL l₂ := by
  induction h with
  | slnil => exact Nat.le_refl _
  | cons a _ ih => exact Nat.le_trans ih (Nat.le_add_left _ _)
  | cons_cons a _ ih => exact Nat.add_le_add_left ih _

theorem sumL_mem_le (f : Cond → Nat) {L : List Cond} {c : Cond} (h : c ∈ L) : f c ≤ sumL (L.map f) :=
  sumL_sublist_le ((List.singleton_sublist.mpr h).map f)

theorem sumL_le_const {f : Cond → Nat} {k : Nat} {L : List Cond} (h : ∀ c ∈ L, f c ≤ k) :
    sumL (L.map f) ≤ L.length * k := by
  induction L with
  | nil => exact Nat.zero_le _
  | cons x xs ih =>
    rw [List.length_cons, Nat.succ_mul, Nat.add_comm]
    exact Nat.add_le_add (h x List.mem_cons_self) (ih fun c hc => h c (List.mem_cons_of_mem _ hc))

theorem kapW_le_total (w' : World) (P : List (List Cond)) (w : World) : kapW w' P w ≤ totalW w' P := by
  induction P with
  | nil => exact Nat.le_refl _
  | cons L lower ih =>
    rw [kapW, totalW, Nat.add_comm]
    exact Nat.add_le_add ih (sumL_sublist_le (List.filter_sublist.map _))

theorem impW_of_fal {w' : World} {T : Nat} {L : List Cond} {c : Cond} (h : c.fal w' = true) :
    impW w' T L c = T + 1 := if_pos h

theorem impW_of_not_fal {w' : World} {T : Nat} {L : List Cond} {c : Cond} (h : c.fal w' = false) :
    impW w' T L c = T + L.length * (T + 1) + 1 := if_neg (Bool.eq_false_iff.mp h)

theorem lt_impW (w' : World) (T : Nat) (L : List Cond) (c : Cond) : T < impW w' T L c := by
  unfold impW; split
  · exact Nat.lt_succ_self _
  · exact Nat.lt_succ_of_le (Nat.le_add_right _ _)

/-- (B) separation: a world that does not W-precede `w'` is ranked at least as high as `w'`. At the first layer
where the falsification sets differ, `w` falsifies a conditional that `w'` does not; its impact alone exceeds what
`w'` pays at this layer (at most `|L|` small impacts) and below (at most the total). -/
theorem kapW_sep (w' : World) : ∀ (P : List (List Cond)) (w : World),
    wless P w w' = false → kapW w' P w' ≤ kapW w' P w := by
  intro P
  induction P with
  | nil => intro w _; exact Nat.le_refl _
  | cons L lower ih =>
    intro w h
    rw [wless] at h
    rw [kapW, kapW]
    split at h
    · next he => rw [he]; exact Nat.add_le_add_left (ih w h) _
    · obtain ⟨c, hc, hnc⟩ := List.all_eq_false.mp h
      obtain ⟨hcL, hcw⟩ := mem_fset.mp hc
      have hcf : c.fal w' = false := Bool.eq_false_iff.mpr fun hf =>
        hnc (List.contains_iff_mem.mpr (mem_fset.mpr ⟨hcL, hf⟩))
      calc sumL ((fset L w').map (impW w' (totalW w' lower) L)) + kapW w' lower w'
          ≤ (fset L w').length * (totalW w' lower + 1) + totalW w' lower :=
            Nat.add_le_add (sumL_le_const fun d hd => Nat.le_of_eq (impW_of_fal (mem_fset.mp hd).2))
              (kapW_le_total w' lower w')
        _ ≤ L.length * (totalW w' lower + 1) + totalW w' lower :=
            Nat.add_le_add_right (Nat.mul_le_mul_right _ (List.length_filter_le _ _)) _
        _ ≤ impW w' (totalW w' lower) L c :=
            impW_of_not_fal hcf ▸ Nat.le_succ_of_le (Nat.le_of_eq (Nat.add_comm _ _))
        _ ≤ sumL ((fset L w).map (impW w' (totalW w' lower) L)) :=
            sumL_mem_le _ (mem_fset.mpr ⟨hcL, hcw⟩)
        _ ≤ _ := Nat.le_add_right _ _

theorem kapW_append_nofal (w' : World) (up rest : List (List Cond)) (u : World)
    (h : ∀ d ∈ up.flatten, d.fal u = false) : kapW w' (up ++ rest) u = kapW w' rest u := by
  induction up with
  | nil => rfl
  | cons L up' ih =>
    rw [List.flatten_cons, List.forall_mem_append] at h
    have hL : fset L u = [] := fset_eq_nil_iff.mpr (nofal_iff_forall.mpr h.1)
    rw [List.cons_append, kapW, hL, ih h.2]
    exact Nat.zero_add _

theorem kapW_append_ge (w' : World) (up rest : List (List Cond)) (x : World) :
    kapW w' rest x ≤ kapW w' (up ++ rest) x := by
  induction up with
  | nil => exact Nat.le_refl _
  | cons L up' ih => exact Nat.le_trans ih (Nat.le_add_left _ _)

/-- (A) every conditional of the partition is accepted; `up`/`lower` split the top-first list. The tolerance witness
pays nothing down to its layer, hence at most the total of the lower layers; a falsifying world pays more than
that for the conditional itself. -/
theorem kapW_accepts (Ω : List World) (w' : World) (up : List (List Cond)) (L : List Cond)
    (lower : List (List Cond)) (c : Cond) (hc : c ∈ L)
    (htol : Tol Ω (L ++ up.flatten) c) :
    Accepts Ω (kapW w' (up ++ L :: lower)) c := by
  obtain ⟨u, hu, hver, hnf⟩ := htol
  refine ⟨u, hu, hver, fun x _ hfx => ?_⟩
  have h1 : kapW w' (up ++ L :: lower) u = kapW w' lower u := by
    rw [List.append_cons]
    exact kapW_append_nofal w' _ lower u fun d hd => by
      rw [List.flatten_append, List.flatten_singleton] at hd
      exact hnf d (List.mem_append.mpr (List.mem_append.mp hd).symm)
  calc kapW w' (up ++ L :: lower) u
      = kapW w' lower u := h1
    _ ≤ totalW w' lower := kapW_le_total w' lower u
    _ < impW w' (totalW w' lower) L c := lt_impW w' _ L c
    _ ≤ sumL ((fset L x).map (impW w' (totalW w' lower) L)) := sumL_mem_le _ (mem_fset.mpr ⟨hc, hfx⟩)
    _ ≤ kapW w' (L :: lower) x := Nat.le_add_right _ _
    _ ≤ kapW w' (up ++ L :: lower) x := kapW_append_ge w' up (L :: lower) x

theorem kapW_models (Ω : List World) (w' : World) (P : List (List Cond)) (hP : IsTolPart Ω P) (lower : List (List Cond)) :
    Models Ω (kapW w' (P.reverse ++ lower)) P.flatten := by
  induction P generalizing lower with
  | nil => exact fun _ hc => nomatch hc
  | cons L rest ih =>
    intro c hc
    obtain ⟨_, htol, hrest⟩ := hP
    rw [List.reverse_cons, List.append_assoc]
    rcases List.mem_append.mp (List.flatten_cons ▸ hc) with hc | hc
    · refine kapW_accepts Ω w' rest.reverse L lower c hc ((htol c hc).mono fun d hd => ?_)
      rw [List.mem_append] at hd ⊢
      exact hd.imp_right (List.reverse_perm rest).flatten.mem_iff.mp
    · exact ih hrest (L :: lower) c hc

end InfOCF
