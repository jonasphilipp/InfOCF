import InfOCFModel.Basic
/-!
# Time budgets: observation points, fault schedules, wrappers

An operator run is a program whose only interaction with time is (a) polling the deadline
(`if deadline.expired(): raise TimeoutError`, `OptimizerRC2.minimal_correction_subsets`) and (b) asking
the z3 optimizer (`Optimize.check()`), which under an exhausted budget answers `unknown`.
A fault schedule says at which poll the deadline is seen expired and at which check the solver gives up.
-/
namespace InfOCF

inductive Prog (α : Type) where
  | ret (a : α)
  | poll (next : Prog α)
  | solve (verdict : Bool) (onSat onUnsat : Prog α)   -- `verdict`: what the solver answers when it is given the time

inductive Res (α : Type) where
  | val (a : α)
  | timeout
  | crash (msg : String)
deriving Repr, DecidableEq

structure Schedule where
  expiredAt : Nat → Bool     -- i-th deadline poll reports expiry
  unknownAt : Nat → Bool     -- j-th solver check reports `unknown`

def Schedule.none : Schedule := ⟨fun _ => false, fun _ => false⟩

/-- the code after the repair: `unknown` raises `TimeoutError` -/
def Prog.run {α} (σ : Schedule) : Prog α → Nat → Nat → Res α
  | .ret a, _, _ => .val a
  | .poll next, i, j => if σ.expiredAt i then .timeout else next.run σ (i + 1) j
  | .solve v s u, i, j =>
    if σ.unknownAt j then .timeout
    else if v then s.run σ i (j + 1) else u.run σ i (j + 1)

/-- the z3 back-ends before the repair: every verdict other than `unsat` was treated as `sat` and the
model was read, which raises `Z3Exception('model is not available')` on `unknown` -/
def Prog.runOld {α} (σ : Schedule) : Prog α → Nat → Nat → Res α
  | .ret a, _, _ => .val a
  | .poll next, i, j => if σ.expiredAt i then .timeout else next.runOld σ (i + 1) j
  | .solve v s u, i, j =>
    if σ.unknownAt j then .crash "Z3Exception: model is not available"
    else if v then s.runOld σ i (j + 1) else u.runOld σ i (j + 1)

/-- `single_inference` / `_multi_inference_worker`: `TimeoutError` becomes `(False, timed_out=True)` -/
structure BRow where
  result : Bool
  inferenceTimedOut : Bool
  preprocessingTimedOut : Bool
deriving Repr, DecidableEq

def rowOfRes : Res Bool → Option BRow     -- `none`: an exception escapes the call
  | .val b => some ⟨b, false, false⟩
  | .timeout => some ⟨false, true, false⟩
  | .crash _ => none

def BRow.flagged (r : BRow) : Bool := r.inferenceTimedOut || r.preprocessingTimedOut

/-! budget arithmetic of `InferenceManager.inference` (seconds in, milliseconds for the elapsed preprocessing time) -/

def effPre (total pre : Nat) : Nat :=
  if total ≠ 0 ∧ pre ≠ 0 then min total pre else if total ≠ 0 then total else pre

/-- per-query budget in milliseconds (may be negative: then the deadline is expired from the start) -/
def effInfMs (total inf : Nat) (preTimeMs : Int) : Int :=
  if total ≠ 0 ∧ inf ≠ 0 then min ((total : Int) * 1000 - preTimeMs) ((inf : Int) * 1000)
  else if total ≠ 0 then (total : Int) * 1000 - preTimeMs else (inf : Int) * 1000

/-- state of the manager with the time-out flag -/
structure BState where
  pre : Option (Option (List (List Cond)))
  preTimedOut : Bool
deriving Repr

/-- preprocessing step of a call (run only when not done yet) -/
def preStep (prePartition : Option (List (List Cond))) (preProg : Prog Unit) (σpre : Schedule) (s : BState) : BState :=
  match s.pre with
  | some _ => s
  | none =>
    match preProg.run σpre 0 0 with
    | .val _ => { s with pre := some prePartition }
    | .timeout => { s with preTimedOut := true }
    | .crash _ => s

/-- rows of the queries, each run under its own fresh deadline (own schedule); `none`: an exception escapes -/
def queryRows : List (Prog Bool × Schedule) → Option (List BRow)
  | [] => some []
  | q :: rest =>
    match rowOfRes (q.1.run q.2 0 0), queryRows rest with
    | some r, some rs => some (r :: rs)
    | _, _ => none

/-- one call -/
def bcall (prePartition : Option (List (List Cond))) (preProg : Prog Unit) (σpre : Schedule)
    (queries : List (Prog Bool × Schedule)) (s : BState) : BState × Option (List BRow) :=
  let s1 := preStep prePartition preProg σpre s
  if s1.preTimedOut then (s1, some (queries.map fun _ => ⟨false, false, true⟩))
  else (s1, queryRows queries)

end InfOCF
