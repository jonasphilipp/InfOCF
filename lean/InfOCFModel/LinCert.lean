import InfOCFModel.CCert
/-!
# Refutation certificates for linear systems over the naturals (with constants)

`LIneq`: `lc · x + lk ≤ rc · x + rk` for coefficient vectors `lc rc` and constants `lk rk`.
`linRefute L`: the weighted sum of the inequalities of `L` has a right-hand side whose coefficients are
dominated by those of the left-hand side while its constant is strictly smaller: no `x` can satisfy all of them
(`linRefute_sound`, Props/C17cert.lean).  Strict inequalities `a < b` over the naturals are written `a + 1 ≤ b`.

Instance: **completeness of a Pareto front** of c-representations (`frontCertCheck`): for every choice of the
verifying sets hidden in the compiled constraints and every choice, per front member `f`, of a coordinate `c`
with `η_c < f_c`, the system must be refuted by some leaf of the pool — then every c-representation dominates
a member of the front (`C17_front_cert_sound`).
-/
namespace InfOCF

def dotL : List Nat → List Nat → Nat
  | a :: as, x :: xs => a * x + dotL as xs
  | _, _ => 0

def addV : List Nat → List Nat → List Nat
  | a :: as, b :: bs => (a + b) :: addV as bs
  | [], bs => bs
  | as, [] => as

def smulV (m : Nat) (a : List Nat) : List Nat := a.map (m * ·)

/-- pointwise `≤`, a missing entry counting as 0 -/
def leV : List Nat → List Nat → Bool
  | [], _ => true
  | a :: as, [] => (a == 0) && leV as []
  | a :: as, b :: bs => decide (a ≤ b) && leV as bs

structure LIneq where
  lc : List Nat
  lk : Nat
  rc : List Nat
  rk : Nat

def LIneq.holds (x : List Nat) (e : LIneq) : Prop := dotL e.lc x + e.lk ≤ dotL e.rc x + e.rk

def sumLC : List (Nat × LIneq) → List Nat
  | [] => []
  | p :: t => addV (smulV p.1 p.2.lc) (sumLC t)
def sumRC : List (Nat × LIneq) → List Nat
  | [] => []
  | p :: t => addV (smulV p.1 p.2.rc) (sumRC t)
def sumLK : List (Nat × LIneq) → Nat
  | [] => 0
  | p :: t => p.1 * p.2.lk + sumLK t
def sumRK : List (Nat × LIneq) → Nat
  | [] => 0
  | p :: t => p.1 * p.2.rk + sumRK t

/-- the weighted inequalities contradict each other -/
def linRefute (L : List (Nat × LIneq)) : Bool := leV (sumRC L) (sumLC L) && decide (sumRK L < sumLK L)

/-! ### Pareto-front completeness -/

/-- indicator vector of the set `s` over the positions of `D` -/
def indV (D s : List Cond) : List Nat := D.map (ind s)

/-- unit vector of coordinate `j` -/
def unitV (j : Nat) : List Nat := List.replicate j 0 ++ [1]

/-- multipliers of one refutation: `bm` aligned with the rows (inner lists aligned with the row's `fMin`), `fm` aligned with the front -/
structure FLeaf where
  bm : List (List Nat)
  fm : List Nat

def frontIneqs (D : List Cond) (tab : List CRow) (ch : List (List Cond)) (front : List (List Nat)) (cs : List Nat)
    (lf : FLeaf) : List (Nat × LIneq) :=
  (((tab.zip ch).zip lf.bm).flatMap fun x =>
      (x.1.1.F.zip x.2).map fun y =>
        (y.2, (⟨indV D x.1.2, 1, addV (indV D [x.1.1.i]) (indV D y.1), 0⟩ : LIneq)))
  ++ ((front.zip cs).zip lf.fm).map fun z => (z.2, (⟨unitV z.1.2, 1, [], z.1.1.getD z.1.2 0⟩ : LIneq))

/-- every choice of verifying sets (rows) and of one coordinate per front member is refuted by a leaf of the pool -/
def frontCertCheck (Ω : List World) (D : List Cond) (front : List (List Nat)) (pool : List FLeaf) : Bool :=
  let tab := ctab Ω D
  (choices (tab.map (·.V))).all fun ch =>
    (choices (front.map fun _ => List.range D.length)).all fun cs =>
      pool.any fun lf => linRefute (frontIneqs D tab ch front cs lf)

/-! ### c-revision: "no parameters exist" -/

/-- coefficients of the revised rank of world `w` over the variables `γ⁺_1 … γ⁺_k, γ⁻_1 … γ⁻_k` -/
def revRowV (R : List Cond) (w : World) : List Nat :=
  indV R (R.filter (·.ver w)) ++ indV R (R.filter (·.fal w))

/-- multipliers of one refutation: `am` aligned with the revision conditionals (inner lists aligned with the falsifying
worlds of the conditional, in the order of `Ω`), `zm` the weight of `Σ γ⁺ ≤ 0` (used when γ⁺ is fixed to zero) -/
structure RLeaf where
  am : List (List Nat)
  zm : Nat

def revIneqs (Ω : List World) (κ : World → Nat) (R : List Cond) (gpz : Bool) (ch : List World) (lf : RLeaf) :
    List (Nat × LIneq) :=
  (((R.zip ch).zip lf.am).flatMap fun x =>
      ((Ω.filter x.1.1.fal).zip x.2).map fun y =>
        (y.2, (⟨revRowV R x.1.2, κ x.1.2 + 1, revRowV R y.1, κ y.1⟩ : LIneq)))
  ++ (if gpz then [(lf.zm, (⟨List.replicate R.length 1, 0, [], 0⟩ : LIneq))] else [])

/-- every choice of one verifying world per revision conditional is refuted by a leaf of the pool -/
def revCertCheck (Ω : List World) (κ : World → Nat) (R : List Cond) (gpz : Bool) (pool : List RLeaf) : Bool :=
  (choices (R.map fun i => Ω.filter i.ver)).all fun ch =>
    pool.any fun lf => linRefute (revIneqs Ω κ R gpz ch lf)

end InfOCF
