import InfOCFModel.Props.C08
import InfOCFModel.SysP
/-!
# C09  Direct inference and the System P postulates (+ rational monotony for Z and lex)

The models of System Z, System W and lexicographic inference answer `prefEnt Ωf lt q` for a strict partial order `lt`
on the feasible worlds (C02/C03/C04/C07). System P is proved once, for *any* strict partial order on a finite world
list (`SysP.lean`), and instantiated; p-entailment and c-inference, which are intersections of such relations, come last.
-/
namespace InfOCF

def rankSPO (κ : World → Nat) : SPO where
  lt := fun w w' => decide (κ w < κ w')
  irrefl := by intro w; simp
  trans := by intro a b c h1 h2; simp only [decide_eq_true_eq] at *; omega

def zSPO (P : List (List Cond)) : SPO := rankSPO (zrk P)

def wSPO (T : List (List Cond)) : SPO where
  lt := wless T
  irrefl := wless_irrefl T
  trans := wless_trans T

def lexSPO (T : List (List Cond)) : SPO where
  lt := fun w w' => lexLt (lexVec T w) (lexVec T w')
  irrefl := fun _ => lexLt_irrefl _
  trans := fun _ _ _ => lexLt_trans _ _ _

theorem prefEnt_iff_Ent (Ω : List World) (o : SPO) (A B : Fm) (k : Nat) :
    prefEnt Ω o.lt ⟨B, A, k⟩ = true ↔ Ent Ω o A B := by
  simp only [prefEnt_iff, Ent, Cond.fal, Cond.ver, Bool.and_eq_true, Bool.not_eq_true', and_imp, and_assoc]

/-- an operator (for a fixed mode and accepted base) whose answers are preferential entailment -/
structure PrefOp (ans : Cond → Out) where
  Ωf : List World
  o : SPO
  h : ∀ q, ans q = .val (prefEnt Ωf o.lt q)

/-- the inference relation of an operator: `A |~ B` iff it answers True to `(B|A)` -/
def Infers (ans : Cond → Out) (A B : Fm) : Prop := ans ⟨B, A, 0⟩ = .val true

theorem infers_iff {ans} (po : PrefOp ans) (A B : Fm) : Infers ans A B ↔ Ent po.Ωf po.o A B := by
  rw [Infers, po.h, ← prefEnt_iff_Ent po.Ωf po.o A B 0, Out.val.injEq]

def prefOpZ (weakly : Bool) (Ω : List World) (D : List Cond) (P : List (List Cond)) (hD : D ≠ [])
    (hP : partFor weakly Ω D = some P) : PrefOp (ansZ weakly Ω D) where
  Ωf := feasible Ω (infLayer weakly P)
  o := zSPO (finLayers weakly P)
  h := ansZ_eq hD hP

def prefOpW (weakly : Bool) (Ω : List World) (D : List Cond) (P : List (List Cond)) (hD : D ≠ [])
    (hP : partFor weakly Ω D = some P) : PrefOp (ansW weakly Ω D) where
  Ωf := feasible Ω (infLayer weakly P)
  o := wSPO (finLayers weakly P).reverse
  h := by
    intro q
    cases weakly
    · have hP' : partS Ω D = some P := by simpa [partFor] using hP
      simp only [finLayers, infLayer, Bool.false_eq_true, ↓reduceIte, feasible_nil]
      exact C03_main Ω D q P hD hP'
    · have hP' : partE Ω D = some P := by simpa [partFor] using hP
      simp only [finLayers, infLayer, ↓reduceIte]
      exact C07_W Ω D q P hD hP'

def prefOpLex (weakly : Bool) (Ω : List World) (D : List Cond) (P : List (List Cond)) (hD : D ≠ [])
    (hP : partFor weakly Ω D = some P) : PrefOp (ansLex weakly Ω D) where
  Ωf := feasible Ω (infLayer weakly P)
  o := lexSPO (finLayers weakly P).reverse
  h := ansLex_eq hD hP

/-- **System P** for every preferential operator: reflexivity, left logical equivalence, right
weakening (hence supraclassicality), And, Or, cautious monotony, Cut -/
theorem C09_systemP {ans} (po : PrefOp ans) :
    (∀ A, Infers ans A A) ∧
    (∀ A A' B, (∀ w, A.eval w = A'.eval w) → Infers ans A B → Infers ans A' B) ∧
    (∀ A B C, (∀ w, B.eval w = true → C.eval w = true) → Infers ans A B → Infers ans A C) ∧
    (∀ A B C, Infers ans A B → Infers ans A C → Infers ans A (.and B C)) ∧
    (∀ A B C, Infers ans A C → Infers ans B C → Infers ans (.or A B) C) ∧
    (∀ A B C, Infers ans A B → Infers ans A C → Infers ans (.and A B) C) ∧
    (∀ A B C, Infers ans A B → Infers ans (.and A B) C → Infers ans A C) :=
  SystemP.of_iff (infers_iff po) (ent_systemP po.Ωf po.o)

/-- supraclassicality: `A ⊨ B` implies `A |~ B` -/
theorem C09_supraclassical {ans} (po : PrefOp ans) (A B : Fm) (h : ∀ w, A.eval w = true → B.eval w = true) :
    Infers ans A B :=
  (C09_systemP po).2.2.1 A A B h ((C09_systemP po).1 A)

/-- **rational monotony** for System Z and lexicographic inference (any mode, any accepted base) -/
theorem C09_RM_Z (weakly : Bool) (Ω : List World) (D : List Cond) (P : List (List Cond)) (hD : D ≠ [])
    (hP : partFor weakly Ω D = some P) (A B C : Fm)
    (h1 : Infers (ansZ weakly Ω D) A C) (h2 : ¬ Infers (ansZ weakly Ω D) A (.neg B)) :
    Infers (ansZ weakly Ω D) (.and A B) C := by
  rw [infers_iff (prefOpZ weakly Ω D P hD hP)] at h1 h2 ⊢
  exact RM_rank _ (zrk (finLayers weakly P)) A B C _ (fun _ _ => rfl) h1 h2

theorem C09_RM_Lex (weakly : Bool) (Ω : List World) (D : List Cond) (P : List (List Cond)) (hD : D ≠ [])
    (hP : partFor weakly Ω D = some P) (A B C : Fm)
    (h1 : Infers (ansLex weakly Ω D) A C) (h2 : ¬ Infers (ansLex weakly Ω D) A (.neg B)) :
    Infers (ansLex weakly Ω D) (.and A B) C := by
  rw [infers_iff (prefOpLex weakly Ω D P hD hP)] at h1 h2 ⊢
  exact RM_modular _ _ (fun _ _ _ => lexLt_negtrans ((lexVec_length _ _).trans (lexVec_length _ _).symm)) A B C h1 h2

/-- `(⊥|A)` is inferred only when no feasible world satisfies `A` (strict mode: only for unsatisfiable A) -/
theorem C09_consistency_preservation {ans} (po : PrefOp ans) (A : Fm) (h : Infers ans A .bot) :
    ∀ w ∈ po.Ωf, A.eval w = false := by
  rw [infers_iff po] at h
  intro w hw
  cases ha : A.eval w
  · rfl
  · obtain ⟨_, _, _, hb, _⟩ := h w hw ha rfl
    exact absurd hb Bool.false_ne_true

/-! Direct inference: p-entailment infers a conditional of the base because every ranking model accepts it; the other
operators follow along p ≤ Z ≤ W ≤ lex. -/

theorem C09_direct_P (Ω : List World) (D : List Cond) (P : List (List Cond)) (hD : D ≠ [])
    (hP : partS Ω D = some P) (c : Cond) (hc : c ∈ D) :
    ansP false Ω D c = .val true :=
  (C01_prefEnt Ω D c P hD hP).mpr fun _ hκ => prefEnt_of_accepts (hκ c hc)

/-- **direct inference** (strict mode): every conditional of the base is inferred by Z, W and lex -/
theorem C09_direct (Ω : List World) (D : List Cond) (P : List (List Cond)) (hD : D ≠ [])
    (hP : partS Ω D = some P) (c : Cond) (hc : c ∈ D) :
    ansZ false Ω D c = .val true ∧ ansW false Ω D c = .val true ∧ ansLex false Ω D c = .val true :=
  C08_P_le_all false Ω D c (C09_direct_P Ω D P hD hP c hc)

/-- **direct inference, extended mode**: a member of a finite layer is accepted by every ranking model of the finite
layers; a member of the infinity layer is falsified by no feasible world -/
theorem C09_direct_ext (Ω : List World) (D : List Cond) (P : List (List Cond)) (hD : D ≠ [])
    (hP : partE Ω D = some P) (c : Cond) (hc : c ∈ D) :
    ansP true Ω D c = .val true ∧ ansZ true Ω D c = .val true ∧ ansW true Ω D c = .val true ∧
    ansLex true Ω D c = .val true := by
  obtain ⟨fin, inf, rfl, hrun, _, _⟩ := (C06_ext Ω D P).mp hP
  have hp : ansP true Ω D c = .val true := by
    refine (C07_P_models Ω D c fin inf hD hP).mpr fun κ hκ => ?_
    rcases (GreedyRun_mem hrun c).mp hc with hfin | hinf
    · exact prefEnt_of_accepts (hκ c hfin)
    · exact prefEnt_of_no_fal _ fun w hw => nofal_iff_forall.mp (mem_feasible.mp hw).2 c hinf
  exact ⟨hp, C08_P_le_all true Ω D c hp⟩

section Example
example : Infers (ansW false (allWorlds 3) exW_D) (.and (.atom 0) (.neg (.atom 1))) (.atom 2) := by
  unfold Infers; decide +kernel
end Example

/-!
### C09 for p-entailment and c-inference: intersections of preferential relations

`A |~ B` under p-entailment holds iff `(B|A)` is preferentially entailed by the rank order of *every* ranking
model of the base (strict mode; in extended mode: of the finite layers over the feasible worlds); skeptical
c-inference is the same with c-representations, for every antecedent (an unsatisfiable one makes both sides
true). System P is inherited by any intersection of preferential relations.
-/

def InterEnt (Ω : List World) (F : SPO → Prop) (A B : Fm) : Prop := ∀ o, F o → Ent Ω o A B

/-- **System P is closed under intersection** -/
theorem interEnt_systemP (Ω : List World) (F : SPO → Prop) :
    (∀ A, InterEnt Ω F A A) ∧
    (∀ A A' B, (∀ w, A.eval w = A'.eval w) → InterEnt Ω F A B → InterEnt Ω F A' B) ∧
    (∀ A B C, (∀ w, B.eval w = true → C.eval w = true) → InterEnt Ω F A B → InterEnt Ω F A C) ∧
    (∀ A B C, InterEnt Ω F A B → InterEnt Ω F A C → InterEnt Ω F A (.and B C)) ∧
    (∀ A B C, InterEnt Ω F A C → InterEnt Ω F B C → InterEnt Ω F (.or A B) C) ∧
    (∀ A B C, InterEnt Ω F A B → InterEnt Ω F A C → InterEnt Ω F (.and A B) C) ∧
    (∀ A B C, InterEnt Ω F A B → InterEnt Ω F (.and A B) C → InterEnt Ω F A C) := by
  refine ⟨?_, ?_, ?_, ?_, ?_, ?_, ?_⟩
  · intro A o _; exact REF Ω o A
  · intro A A' B heq h o ho; exact LLE Ω o A A' B heq (h o ho)
  · intro A B C himp h o ho; exact RW Ω o A B C himp (h o ho)
  · intro A B C h1 h2 o ho; exact AND Ω o A B C (h1 o ho) (h2 o ho)
  · intro A B C h1 h2 o ho; exact OR Ω o A B C (h1 o ho) (h2 o ho)
  · intro A B C h1 h2 o ho; exact CM Ω o A B C (h1 o ho) (h2 o ho)
  · intro A B C h1 h2 o ho; exact CUT Ω o A B C (h1 o ho) (h2 o ho)

theorem interEnt_rank_iff {ι : Type} {Ω : List World} (p : ι → Prop) (κ : ι → World → Nat) {A B : Fm} {k : Nat} :
    (∀ i, p i → prefEnt Ω (fun w w' => κ i w < κ i w') ⟨B, A, k⟩ = true) ↔
      InterEnt Ω (fun o => ∃ i, p i ∧ o = rankSPO (κ i)) A B := by
  constructor
  · rintro h o ⟨i, hi, rfl⟩
    exact (prefEnt_iff_Ent Ω (rankSPO (κ i)) A B k).mp (h i hi)
  · exact fun h i hi => (prefEnt_iff_Ent Ω (rankSPO (κ i)) A B k).mpr (h _ ⟨i, hi, rfl⟩)

/-- **p-entailment (strict mode) is the intersection over all ranking models of the base** -/
theorem C09_P_is_intersection (Ω : List World) (D : List Cond) (P : List (List Cond)) (hD : D ≠ [])
    (hP : partS Ω D = some P) (A B : Fm) :
    Infers (ansP false Ω D) A B ↔ InterEnt Ω (fun o => ∃ κ, Models Ω κ D ∧ o = rankSPO κ) A B := by
  rw [Infers, C01_prefEnt Ω D _ P hD hP]
  exact interEnt_rank_iff (Models Ω · D) id

/-- **System P for p-entailment** (strict mode) -/
theorem C09_systemP_P (Ω : List World) (D : List Cond) (P : List (List Cond)) (hD : D ≠ []) (hP : partS Ω D = some P) :
    (∀ A, Infers (ansP false Ω D) A A) ∧
    (∀ A A' B, (∀ w, A.eval w = A'.eval w) → Infers (ansP false Ω D) A B → Infers (ansP false Ω D) A' B) ∧
    (∀ A B C, (∀ w, B.eval w = true → C.eval w = true) → Infers (ansP false Ω D) A B → Infers (ansP false Ω D) A C) ∧
    (∀ A B C, Infers (ansP false Ω D) A B → Infers (ansP false Ω D) A C → Infers (ansP false Ω D) A (.and B C)) ∧
    (∀ A B C, Infers (ansP false Ω D) A C → Infers (ansP false Ω D) B C → Infers (ansP false Ω D) (.or A B) C) ∧
    (∀ A B C, Infers (ansP false Ω D) A B → Infers (ansP false Ω D) A C → Infers (ansP false Ω D) (.and A B) C) ∧
    (∀ A B C, Infers (ansP false Ω D) A B → Infers (ansP false Ω D) (.and A B) C → Infers (ansP false Ω D) A C) :=
  SystemP.of_iff (C09_P_is_intersection Ω D P hD hP) (interEnt_systemP _ _)

/-- skeptical c-inference as an inference relation on formulas -/
def InfersC (Ω : List World) (D : List Cond) (A B : Fm) : Prop := specC Ω D ⟨B, A, 0⟩

/-- **c-inference is the intersection over all c-representations**, for every antecedent (for a base that has a
c-representation and satisfiable `A` this is the usual definition; an unsatisfiable antecedent makes both sides true) -/
theorem C09_C_is_intersection_full (Ω : List World) (D : List Cond) (A B : Fm) :
    InfersC Ω D A B ↔ InterEnt Ω (fun o => ∃ imp, IsCRep Ω D imp ∧ o = rankSPO (kappaC D imp)) A B :=
  (specC_iff_prefEnt Ω D ⟨B, A, 0⟩).trans (interEnt_rank_iff (IsCRep Ω D) (kappaC D))

theorem C09_C_is_intersection (Ω : List World) (D : List Cond) (A B : Fm) (hA : ∃ w ∈ Ω, A.eval w = true) :
    InfersC Ω D A B ↔ InterEnt Ω (fun o => ∃ imp, IsCRep Ω D imp ∧ o = rankSPO (kappaC D imp)) A B :=
  C09_C_is_intersection_full Ω D A B

/-- **System P for skeptical c-inference**, all seven postulates, no side condition -/
theorem C09_systemP_C_full (Ω : List World) (D : List Cond) :
    (∀ A, InfersC Ω D A A) ∧
    (∀ A A' B, (∀ w, A.eval w = A'.eval w) → InfersC Ω D A B → InfersC Ω D A' B) ∧
    (∀ A B C, (∀ w, B.eval w = true → C.eval w = true) → InfersC Ω D A B → InfersC Ω D A C) ∧
    (∀ A B C, InfersC Ω D A B → InfersC Ω D A C → InfersC Ω D A (.and B C)) ∧
    (∀ A B C, InfersC Ω D A C → InfersC Ω D B C → InfersC Ω D (.or A B) C) ∧
    (∀ A B C, InfersC Ω D A B → InfersC Ω D A C → InfersC Ω D (.and A B) C) ∧
    (∀ A B C, InfersC Ω D A B → InfersC Ω D (.and A B) C → InfersC Ω D A C) :=
  SystemP.of_iff (C09_C_is_intersection_full Ω D) (interEnt_systemP _ _)

/-- the postulates that keep the antecedent, for one antecedent -/
theorem C09_systemP_C (Ω : List World) (D : List Cond) (A : Fm) (hA : ∃ w ∈ Ω, A.eval w = true) :
    InfersC Ω D A A ∧
    (∀ B C, (∀ w, B.eval w = true → C.eval w = true) → InfersC Ω D A B → InfersC Ω D A C) ∧
    (∀ B C, InfersC Ω D A B → InfersC Ω D A C → InfersC Ω D A (.and B C)) := by
  obtain ⟨h1, _, h3, h4, _⟩ := C09_systemP_C_full Ω D
  exact ⟨h1 A, h3 A, h4 A⟩

/-- direct inference for skeptical c-inference: every conditional of the base is accepted by every c-representation -/
theorem C09_direct_C (Ω : List World) (D : List Cond) (c : Cond) (hc : c ∈ D) : specC Ω D c :=
  Or.inr fun _ himp => himp c hc

/-- **extended p-entailment is an intersection of preferential relations over the feasible worlds** -/
theorem C09_Pext_is_intersection (Ω : List World) (D : List Cond) (fin : List (List Cond)) (inf : List Cond)
    (hD : D ≠ []) (hP : partE Ω D = some (fin ++ [inf])) (A B : Fm) :
    Infers (ansP true Ω D) A B ↔
      InterEnt (feasible Ω inf) (fun o => ∃ κ, Models (feasible Ω inf) κ fin.flatten ∧ o = rankSPO κ) A B := by
  rw [Infers, C07_P_models Ω D ⟨B, A, 0⟩ fin inf hD hP]
  exact interEnt_rank_iff (Models (feasible Ω inf) · fin.flatten) id

/-- **System P for p-entailment in extended mode** -/
theorem C09_systemP_Pext (Ω : List World) (D : List Cond) (fin : List (List Cond)) (inf : List Cond)
    (hD : D ≠ []) (hP : partE Ω D = some (fin ++ [inf])) :
    (∀ A, Infers (ansP true Ω D) A A) ∧
    (∀ A A' B, (∀ w, A.eval w = A'.eval w) → Infers (ansP true Ω D) A B → Infers (ansP true Ω D) A' B) ∧
    (∀ A B C, (∀ w, B.eval w = true → C.eval w = true) → Infers (ansP true Ω D) A B → Infers (ansP true Ω D) A C) ∧
    (∀ A B C, Infers (ansP true Ω D) A B → Infers (ansP true Ω D) A C → Infers (ansP true Ω D) A (.and B C)) ∧
    (∀ A B C, Infers (ansP true Ω D) A C → Infers (ansP true Ω D) B C → Infers (ansP true Ω D) (.or A B) C) ∧
    (∀ A B C, Infers (ansP true Ω D) A B → Infers (ansP true Ω D) A C → Infers (ansP true Ω D) (.and A B) C) ∧
    (∀ A B C, Infers (ansP true Ω D) A B → Infers (ansP true Ω D) (.and A B) C → Infers (ansP true Ω D) A C) :=
  SystemP.of_iff (C09_Pext_is_intersection Ω D fin inf hD hP) (interEnt_systemP _ _)

/-- non-vacuity of `C09_systemP_Pext`: a weakly consistent base with a non-empty infinity layer, `(f|b)` and `(⊥|p)` -/
def exPx : List Cond := [⟨.atom 2, .atom 0, 1⟩, ⟨.bot, .atom 1, 2⟩]

example : exPx ≠ [] ∧ partE (allWorlds 3) exPx = some ([[⟨.atom 2, .atom 0, 1⟩]] ++ [[⟨.bot, .atom 1, 2⟩]]) := by
  decide +kernel

/-- and the extended operator then infers `(f|b)` and does not infer `(b|f)` -/
example : ansP true (allWorlds 3) exPx ⟨.atom 2, .atom 0, 0⟩ = .val true ∧
    ansP true (allWorlds 3) exPx ⟨.atom 0, .atom 2, 0⟩ = .val false := by
  decide +kernel

end InfOCF
