import InfOCFModel.Props.C18
import InfOCFModel.Props.C06
/-!
# C16  The System Z ranking object equals the Z-ranking and models the base
-/
namespace InfOCF

theorem recZ_eq_zrk (A : List (List Cond)) (w : World) : recZ A w = zrk A.reverse w := by
  induction A with
  | nil => rfl
  | cons L lower ih =>
    rw [recZ, List.reverse_cons, zrk_snoc, ← ih, List.length_reverse, nofal_eq_not_any]
    cases L.any (·.fal w) <;> rfl

/-- **C16 (rank)**: the rank computed by the descending-layer recursion is the Z-rank of C02 -/
theorem C16_rank (P : List (List Cond)) (w : World) : zObjRank P w = zrk P w := by
  rw [zObjRank, recZ_eq_zrk, List.reverse_reverse]

/-- **C16 (extended)**: with the infinity layer stored last, exactly the infeasible worlds get the top
rank `|fin| + 1`, one above all finite ranks; feasible worlds get their Z-rank over the finite layers -/
theorem C16_rank_ext (fin : List (List Cond)) (inf : List Cond) (w : World) :
    zObjRank (fin ++ [inf]) w = if nofal inf w then zrk fin w else fin.length + 1 := by
  rw [C16_rank, zrk_snoc]

theorem C16_finite_le (fin : List (List Cond)) (w : World) : zrk fin w ≤ fin.length := zrk_le_length fin w

inductive ZOp where
  | lazyRank (w : World)
  | forceRank (w : World)
  | all
deriving Repr

def zOpStep (Ω : List World) (P : List (List Cond)) (cache : List (World × Nat)) : ZOp → List (World × Nat) × List Nat
  | .lazyRank w =>
    match cache.find? (·.1 == w) with
    | some p => (cache, [p.2])
    | none => let r := zObjRank P w; ((w, r) :: cache, [r])
  | .forceRank w => let r := zObjRank P w; ((w, r) :: cache.filter (·.1 != w), [r])
  | .all =>
    let vals := Ω.map fun w => match cache.find? (·.1 == w) with
      | some p => p.2
      | none => zObjRank P w
    ((Ω.zip vals) ++ cache, vals)

def zRun (Ω : List World) (P : List (List Cond)) : List (World × Nat) → List ZOp → List (List Nat)
  | _, [] => []
  | cache, op :: ops => let r := zOpStep Ω P cache op; r.2 :: zRun Ω P r.1 ops

def CacheOk (P : List (List Cond)) (cache : List (World × Nat)) : Prop := ∀ p ∈ cache, p.2 = zObjRank P p.1

def expectedVals (Ω : List World) (P : List (List Cond)) : ZOp → List Nat
  | .lazyRank w => [zObjRank P w]
  | .forceRank w => [zObjRank P w]
  | .all => Ω.map (zObjRank P)

theorem cache_read (P : List (List Cond)) {cache : List (World × Nat)} (h : CacheOk P cache) (w : World) :
    (match cache.find? (·.1 == w) with | some p => p.2 | none => zObjRank P w) = zObjRank P w := by
  cases hf : cache.find? (·.1 == w) with
  | none => rfl
  | some p =>
    obtain ⟨rfl, hp⟩ := find?_key hf
    exact h p hp

theorem zOpStep_ok (Ω : List World) (P : List (List Cond)) (cache : List (World × Nat)) (op : ZOp) (h : CacheOk P cache) :
    CacheOk P (zOpStep Ω P cache op).1 ∧ (zOpStep Ω P cache op).2 = expectedVals Ω P op := by
  cases op with
  | lazyRank w =>
    simp only [zOpStep, expectedVals]
    cases hf : cache.find? (·.1 == w) with
    | some p => obtain ⟨rfl, hp⟩ := find?_key hf; exact ⟨h, congrArg (· :: []) (h p hp)⟩
    | none => exact ⟨List.forall_mem_cons.mpr ⟨rfl, h⟩, rfl⟩
  | forceRank w => exact ⟨List.forall_mem_cons.mpr ⟨rfl, fun p hp => h p (List.mem_filter.mp hp).1⟩, rfl⟩
  | all =>
    simp only [zOpStep, expectedVals, funext (cache_read P h)]
    refine ⟨List.forall_mem_append.mpr ⟨fun p hp => ?_, h⟩, trivial⟩
    rw [← List.map_prod_left_eq_zip] at hp
    obtain ⟨a, _, rfl⟩ := List.mem_map.mp hp
    rfl

theorem zRun_eq (Ω : List World) (P : List (List Cond)) (ops : List ZOp) (cache : List (World × Nat))
    (hc : CacheOk P cache) : zRun Ω P cache ops = ops.map (expectedVals Ω P) := by
  induction ops generalizing cache with
  | nil => rfl
  | cons o rest ih =>
    obtain ⟨hok, hval⟩ := zOpStep_ok Ω P cache o hc
    rw [zRun, hval, ih _ hok, List.map_cons]

/-- **C16 (cache)**: whatever the order of lazy, forced and bulk requests, every value returned is the
Z-rank of the world asked for -/
theorem C16_cache (Ω : List World) (P : List (List Cond)) : ∀ (ops : List ZOp) (cache : List (World × Nat)),
    CacheOk P cache →
    ∀ (i : Nat) (op : ZOp) (vals : List Nat), ops[i]? = some op → (zRun Ω P cache ops)[i]? = some vals →
      vals = expectedVals Ω P op := by
  intro ops cache hc i op vals hop hv
  rw [zRun_eq Ω P ops cache hc, List.getElem?_map, hop] at hv
  exact (Option.some.inj hv).symm

/-- **C16 (models)**: the ranking object accepts every conditional of the base outside the infinity layer
(strict mode: every conditional) -/
theorem C16_models (Ω : List World) (D : List Cond) (fin : List (List Cond)) (inf : List Cond)
    (hP : partE Ω D = some (fin ++ [inf])) :
    ∀ c ∈ fin.flatten, acceptCode Ω (zObjRank (fin ++ [inf])) c = true := by
  intro c hc
  rw [C18_accept_iff, funext (C16_rank _)]
  exact accepts_of_filter (zrk_models (feasible Ω inf) fin (GreedyRun_isTolPart (partE_run hP).1) c hc)

/-- **C16 (acceptance = System Z operator)** for queries whose antecedent has a feasible model -/
theorem C16_accept_eq_Z (Ω : List World) (fin : List (List Cond)) (inf : List Cond) (q : Cond)
    (hA : ∃ w ∈ feasible Ω inf, q.ante.eval w = true) :
    acceptCode Ω (zObjRank (fin ++ [inf])) q = specZ (feasible Ω inf) fin q := by
  rw [Bool.eq_iff_iff, C18_accept_iff, specZ, ← accepts_iff_prefEnt _ _ q hA, funext (C16_rank _)]
  -- both sides are acceptance now: by the ranking with the infinity layer on top, and over the feasible worlds without it
  show Accepts Ω (zrk (fin ++ [inf])) q ↔ Accepts (Ω.filter (nofal inf)) (zrk fin) q
  obtain ⟨a, ha, hAa⟩ := hA
  -- the feasible world `a` with the antecedent falsifies `q` or verifies it
  have hq : (∃ w' ∈ Ω, q.fal w' = true) ∨ ∃ w ∈ Ω.filter (nofal inf), q.ver w = true :=
    (ver_or_fal q hAa).symm.imp (fun hf => ⟨a, (mem_feasible.mp ha).1, hf⟩) fun hv => ⟨a, ha, hv⟩
  exact accepts_filter_iff hq

/-- **C16 (facts)**: with facts, every world violating a fact receives the top rank -/
theorem C16_facts_top (Ω : List World) (D : List Cond) (facts : List Fm) (fin : List (List Cond)) (inf : List Cond)
    (hP : partE Ω (augment D facts) = some (fin ++ [inf])) (φ : Fm) (hφ : φ ∈ facts) (w : World)
    (hv : φ.eval w = false) : zObjRank (fin ++ [inf]) w = fin.length + 1 := by
  obtain ⟨i, hi⟩ := List.mem_iff_getElem?.mp hφ
  -- the conditional `(⊥|¬φ)` added for the fact lies in the infinity layer, and `w` falsifies it
  have hmem : factCond (maxKey D + 1 + i) φ ∈ augment D facts :=
    List.mem_append_right _ (List.mem_map.mpr ⟨(φ, i), List.mk_mem_zipIdx_iff_getElem?.mpr hi, rfl⟩)
  have hin := C06_facts_in_infinity Ω D facts _ hP _ hmem rfl
  rw [List.getLastD_concat] at hin
  have hfal : (factCond (maxKey D + 1 + i) φ).fal w = true := by simp [factCond, Cond.fal, Fm.eval, hv]
  rw [C16_rank_ext, if_neg]
  exact fun hn => ne_true_of_eq_false (nofal_iff_forall.mp hn _ hin) hfal

/-! non-vacuity: penguin base, lazy/forced/all requests -/
example : zRun (allWorlds 3) [[⟨.atom 2, .atom 0, 1⟩], [⟨.neg (.atom 2), .atom 1, 2⟩, ⟨.atom 0, .atom 1, 3⟩]] []
    [.lazyRank [true, true, true], .forceRank [true, true, true], .all] =
    [[2], [2], [0, 1, 2, 1, 0, 0, 2, 2]] := by decide +kernel
end InfOCF
