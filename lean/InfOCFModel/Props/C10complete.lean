import InfOCFModel.Props.C10sound
import InfOCFModel.Props.C10text
/-!
# C10, rule `condition`: completeness — every token list of the documented shape is accepted, with that meaning

With `C10_conditions_sound_rem` this gives `C10_conditions_iff`, *accepted ⇔ documented shape*, so a malformed list is
rejected. The model finds the end of a formula by counting parentheses (`parseFmPrefix.split`); the step for one formula
(`parseFmPrefix_complete`) therefore rests on the tokens of a derivation being balanced (`depT_D`). The instance for printed
conditionals is `C10_conditions_order`.
-/
namespace InfOCF

def depT : Nat → List Tok → Option Nat
  | d, [] => some d
  | d, .lpar :: r => depT (d + 1) r
  | d, .rpar :: r => if d = 0 then none else depT (d - 1) r
  | d, _ :: r => depT d r

theorem depT_append (a b : List Tok) (d : Nat) : depT d (a ++ b) = (depT d a).bind fun d' => depT d' b := by
  fun_induction depT d a <;> simp_all [depT]

theorem depT_D : ∀ {lvl : Nat} {ts : List Tok} {f : Fm}, D lvl ts f → ∀ d, depT d ts = some d := by
  intro lvl ts f h
  induction h with
  | atom | top | bot => intro d; rfl
  | neg _ ih | up1 _ ih | up2 _ ih => exact ih
  | paren _ ih => intro d; rw [depT, depT_append, ih]; rfl
  | conj _ _ ih1 ih2 | disj _ _ ih1 ih2 => intro d; rw [depT_append, ih1]; exact ih2 d

theorem split_mapM (names : List String) (tb : List LTok) (fts : List Tok) (h : tb.mapM (toFmTok names) = some fts)
    (rest acc : List LTok) (d d' : Nat) (hd : depT d fts = some d') :
    parseFmPrefix.split (tb ++ rest) d acc = parseFmPrefix.split rest d' (tb.reverse ++ acc) := by
  induction tb generalizing fts acc d with
  | nil => cases h; cases hd; rfl
  | cons t r ih =>
    simp only [List.mapM_cons, Option.bind_eq_bind, Option.pure_def, Option.bind_eq_some_iff, Option.some.injEq] at h
    obtain ⟨t', ht, fr, hr, rfl⟩ := h
    have key := fun d => ih fr hr (t :: acc) d
    simp only [List.reverse_cons, List.append_assoc, List.cons_append, List.nil_append]
    cases t with
    | id s =>
      -- an identifier becomes `top`, `bot` or `id _`: no parenthesis
      simp only [toFmTok] at ht
      by_cases h1 : (s == "Top") = true
      · rw [if_pos h1] at ht; cases ht; exact key d hd
      by_cases h2 : (s == "Bottom") = true
      · rw [if_neg h1, if_pos h2] at ht; cases ht; exact key d hd
      · rw [if_neg h1, if_neg h2] at ht; cases ht; exact key d hd
    | rpar =>
      cases ht
      cases d with
      | zero => cases hd
      | succ d => exact key d hd
    | lpar | comma | semi | not => cases ht; exact key _ hd
    | _ => cases ht

theorem parseFmPrefix_complete (names : List String) (tb : List LTok) (pf : PF) (hd : DFm names tb pf) (t : LTok) (r : List LTok)
    (ht : t = .bar ∨ t = .rpar) : parseFmPrefix names (tb ++ t :: r) = some (pf, t :: r) := by
  obtain ⟨fts, f, hm, hD, rfl⟩ := hd
  have hsplit : parseFmPrefix.split (tb ++ t :: r) 0 [] = some (tb, t :: r) := by
    rw [split_mapM names tb fts hm (t :: r) [] 0 0 (depT_D hD 0)]
    rcases ht with rfl | rfl <;> simp [parseFmPrefix.split]
  unfold parseFmPrefix
  rw [hsplit]
  simp only [hm, parseFm_complete fts f hD, Option.map_some]

/-- completeness with the exact fuel: one unit per conditional -/
theorem conditions_complete (names : List String) {consumed : List LTok} {cs : List (PF × PF)}
    (h : DConds names consumed cs) (rest : List LTok) (hrest : ∀ r', rest ≠ .comma :: r') (fuel : Nat)
    (hfuel : cs.length ≤ fuel) :
    parseConditions names fuel (consumed ++ rest) = some (cs, skipNL rest) := by
  induction h generalizing fuel with
  | @last tb ta b a hb ha =>
    cases fuel with
    | zero => nomatch hfuel
    | succ fuel =>
      simp only [List.cons_append, List.append_assoc, List.nil_append]
      unfold parseConditions
      -- `hrest` (found by `simp`) selects the branch without a comma behind the closing parenthesis
      simp only [parseFmPrefix_complete names tb b hb .bar _ (Or.inl rfl),
        parseFmPrefix_complete names ta a ha .rpar _ (Or.inr rfl)]
  | @more tb ta nl rest0 b a cs0 hb ha hnl hrec ih =>
    cases fuel with
    | zero => nomatch hfuel
    | succ fuel =>
      simp only [List.cons_append, List.append_assoc]
      unfold parseConditions
      simp only [parseFmPrefix_complete names tb b hb .bar _ (Or.inl rfl),
        parseFmPrefix_complete names ta a ha .rpar _ (Or.inr rfl)]
      have hskip : skipNL (nl ++ (rest0 ++ rest)) = rest0 ++ rest := by
        rw [skipNL_NLs_append nl _ hnl]; cases hrec <;> rfl
      rw [hskip, ih fuel (Nat.le_of_succ_le_succ hfuel)]

/-- **rule `condition`, completeness** -/
theorem C10_conditions_complete (names : List String) : ∀ {consumed : List LTok} {cs : List (PF × PF)},
    DConds names consumed cs → ∀ (rest : List LTok), (∀ r', rest ≠ .comma :: r') → ∀ fuel, cs.length < fuel →
    parseConditions names fuel (consumed ++ rest) = some (cs, skipNL rest) :=
  fun h rest hrest fuel hf => conditions_complete names h rest hrest fuel (Nat.le_of_lt hf)

/-- **rule `condition`: accepted ⇔ documented shape**: the model accepts a token list and returns `cs` with remainder `rest`
exactly when the list is a `DConds` derivation of `cs` followed by a remainder that does not start with a comma, `rest` being
that remainder without its leading line ends -/
theorem C10_conditions_iff (names : List String) (ts : List LTok) (cs : List (PF × PF)) (rest : List LTok) :
    (∃ fuel, parseConditions names fuel ts = some (cs, rest)) ↔
    (∃ consumed rem, DConds names consumed cs ∧ ts = consumed ++ rem ∧ rest = skipNL rem ∧ (∀ r', rem ≠ .comma :: r')) :=
  ⟨fun ⟨fuel, h⟩ => C10_conditions_sound_rem h, fun ⟨consumed, rem, hd, he, hr, hne⟩ =>
    ⟨cs.length, by rw [he, hr]; exact conditions_complete names hd rem hne _ (Nat.le_refl _)⟩⟩

/-- rejection: no decomposition, no acceptance (whatever the fuel) -/
theorem C10_conditions_reject (names : List String) (ts : List LTok)
    (h : ¬ ∃ cs consumed rem, DConds names consumed cs ∧ ts = consumed ++ rem ∧ (∀ r', rem ≠ .comma :: r')) :
    ∀ fuel, parseConditions names fuel ts = none :=
  fun _ => Option.eq_none_iff_forall_ne_some.2 fun (cs, _) hp =>
    have ⟨consumed, rem, hd, he, _, hne⟩ := C10_conditions_sound_rem hp
    h ⟨cs, consumed, rem, hd, he, hne⟩

theorem parseFmPrefix_fmToks (names names' : List String) (f : Fm) (h : NamedIn names names' f) (t : LTok) (r : List LTok)
    (ht : t = .bar ∨ t = .rpar) :
    parseFmPrefix names' (fmToks names f ++ t :: r) = some (PF.ofFm names f, t :: r) :=
  parseFmPrefix_complete names' _ _ (DFm_fmToks names names' f h) t r ht

theorem DConds_condsToks (names names' : List String) (cs : List (Fm × Fm)) (hne : cs ≠ [])
    (hN : ∀ c ∈ cs, NamedIn names names' c.1 ∧ NamedIn names names' c.2) :
    DConds names' (condsToks names cs) (cs.map fun c => (PF.ofFm names c.1, PF.ofFm names c.2)) := by
  induction cs with
  | nil => exact absurd rfl hne
  | cons c rest ih =>
    have hc := hN c List.mem_cons_self
    have hb := DFm_fmToks names names' c.1 hc.1
    have ha := DFm_fmToks names names' c.2 hc.2
    cases rest with
    | nil => exact DConds.last hb ha
    | cons c2 rest2 =>
      have := DConds.more (nl := [.newline]) hb ha (fun _ h => List.mem_singleton.1 h)
        (ih (List.cons_ne_nil _ _) fun d hd => hN d (List.mem_cons_of_mem _ hd))
      simpa [condsToks, condToks] using this

/-- **C10 (file order, consequent before the bar)**: the `condition` rule reads a printed list of conditionals back as
exactly the list of (consequent, antecedent) pairs, in the order of the file -/
theorem C10_conditions_order (names names' : List String) : ∀ (cs : List (Fm × Fm)), cs ≠ [] →
    (∀ c ∈ cs, NamedIn names names' c.1 ∧ NamedIn names names' c.2) → ∀ (r : List LTok) (fuel : Nat), cs.length ≤ fuel →
    parseConditions names' fuel (condsToks names cs ++ .rbrace :: r) =
      some (cs.map fun c => (PF.ofFm names c.1, PF.ofFm names c.2), .rbrace :: r) :=
  fun cs hne hN r fuel hf =>
    conditions_complete names' (DConds_condsToks names names' cs hne hN) (.rbrace :: r) (fun _ h => by cases h) fuel
      (by rwa [List.length_map])

/-! non-vacuity: the tokens of `(a|b), (!a|a;b)` have the documented shape, and the model reads two conditionals -/
section Example
def exToks : List LTok :=
  [.lpar, .id "a", .bar, .id "b", .rpar, .comma, .newline, .lpar, .not, .id "a", .bar, .id "a", .semi, .id "b", .rpar, .rbrace]
theorem exToks_parse : parseConditions ["a", "b"] 5 exToks =
    some ([(.var "a", .var "b"), (.neg (.var "a"), .or (.var "a") (.var "b"))], [.rbrace]) := by decide +kernel
example : (parseConditions ["a", "b"] 5 exToks).map (fun p => (p.1.length, p.2)) = some (2, [.rbrace]) := by
  rw [exToks_parse]; rfl
example : ∃ consumed rem cs, DConds ["a", "b"] consumed cs ∧ exToks = consumed ++ rem ∧ cs.length = 2 := by
  obtain ⟨consumed, rem, hd, he, _, _⟩ := C10_conditions_sound_rem exToks_parse
  exact ⟨consumed, rem, _, hd, he, rfl⟩
end Example

end InfOCF
