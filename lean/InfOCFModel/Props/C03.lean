import InfOCFModel.Props.Common
/-!
# C03  System W answers equal the preferred-structure definition (both back-ends)

Both back-ends run the same recursion (`algWCode`); one optimizer call is the contract `famMin`
(the inclusion-minimal falsification sets of the layer over the worlds allowed by the hard
constraints). The RC2 blocking loop with superset removal meets this contract by `C15_loop_exact`, the z3 loop by `C03_z3enum` (`C11.lean`).
-/
namespace InfOCF

/-- `w <_w w'` in the property's words: going from the highest layer downwards the falsification
sets agree until a layer where `w`'s set is a proper subset of `w'`'s. -/
theorem C03_wless_spec (layers : List (List Cond)) (w w' : World) :
    wless layers w w' = true ↔
      ∃ pre L post, layers = pre ++ L :: post ∧ (∀ M ∈ pre, fset M w = fset M w') ∧
        fset L w ≠ fset L w' ∧ ∀ c ∈ fset L w, c ∈ fset L w' := by
  constructor
  · intro h
    induction layers with
    | nil => cases h
    | cons L rest ih =>
      rcases wless_cons.mp h with ⟨heq, hr⟩ | ⟨hne, hsub⟩
      · obtain ⟨pre, M, post, rfl, hpre, hM⟩ := ih hr
        exact ⟨L :: pre, M, post, rfl, List.forall_mem_cons.mpr ⟨heq, hpre⟩, hM⟩
      · exact ⟨[], L, rest, rfl, List.forall_mem_nil _, hne, subsetL_iff.mp hsub⟩
  · rintro ⟨pre, L, post, rfl, hpre, hne, hsub⟩
    rw [wless_append_of_eq hpre, wless_cons]
    exact Or.inr ⟨hne, subsetL_iff.mpr hsub⟩

/-- **C03 (main)**: on a non-empty strongly consistent base System W (either back-end) answers True
exactly when every world falsifying the query is `<_w`-dominated by a world verifying it. -/
theorem C03_main (Ω : List World) (D : List Cond) (q : Cond) (P : List (List Cond))
    (hD : D ≠ []) (hP : partS Ω D = some P) :
    ansW false Ω D q = .val (specW P.reverse (Ω.filter q.ver) (Ω.filter q.fal)) := by
  rw [ansW_eq (weakly := false) hD hP q, feasible_strict]; rfl

theorem C03_spec_form (layersTop : List (List Cond)) (Ω : List World) (q : Cond) :
    specW layersTop (Ω.filter q.ver) (Ω.filter q.fal) = true ↔
      ∀ w' ∈ Ω, q.fal w' = true → ∃ w ∈ Ω, q.ver w = true ∧ wless layersTop w w' = true :=
  specW_eq_prefEnt layersTop Ω q ▸ prefEnt_iff

theorem C03_refuse (Ω : List World) (D : List Cond) (q : Cond) :
    (D = [] → ansW false Ω D q = .refuseEmpty) ∧
    (D ≠ [] → partS Ω D = none → ansW false Ω D q = .refuseIncons) :=
  wrap_refuse false Ω D q _

/-! non-vacuity: a base where System W and System Z differ (incomparable falsification sets) -/
section Example
-- atoms 0=a 1=b 2=c; base (b|a), (c|a), (¬a|⊤): two layers, (b|a) and (c|a) together in the upper one
def exW_D : List Cond := [⟨.atom 1, .atom 0, 1⟩, ⟨.atom 2, .atom 0, 2⟩, ⟨.neg (.atom 0), .top, 3⟩]
example : ∃ P, partS (allWorlds 3) exW_D = some P ∧ P.length = 2 := by decide +kernel
-- (c | a ∧ ¬b): System W infers it, System Z does not
example : ansW false (allWorlds 3) exW_D ⟨.atom 2, .and (.atom 0) (.neg (.atom 1)), 0⟩ = .val true := by decide +kernel
example : ansZ false (allWorlds 3) exW_D ⟨.atom 2, .and (.atom 0) (.neg (.atom 1)), 0⟩ = .val false := by decide +kernel
end Example

end InfOCF
