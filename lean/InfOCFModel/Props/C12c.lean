import InfOCFModel.Props.C12ren
import InfOCFModel.CRepModel
/-!
# C12 for skeptical c-inference (at the level of its specification `specC`)

`specC` quantifies over impact assignments `imp : Cond → Nat`. For a base without literally repeated entries (keys are
unique) this is the same as quantifying over impact *vectors* by position (`specC_iff_pos`), and the positional form
only looks at the verification / falsification behaviour of the conditionals, position by position (`C12_c_invariance`,
along the world transports of `C12.lean`). The tie of `specC` to the code is C05.
-/
namespace InfOCF

def kappaPos : List Cond → List Nat → World → Nat
  | c :: D, e :: η, w => (if c.fal w then e else 0) + kappaPos D η w
  | _, _, _ => 0

theorem kappaC_eq_pos (imp : Cond → Nat) (D : List Cond) : kappaC D imp = kappaPos D (D.map imp) := by
  funext w
  induction D with
  | nil => rfl
  | cons c t ih =>
    rw [List.map_cons, kappaPos, ← ih, kappaC, kappaC, fset, fset, List.filter_cons]
    cases c.fal w
    · exact (Nat.zero_add _).symm
    · rfl

def specCpos (Ω : List World) (D : List Cond) (q : Cond) : Prop :=
  (∀ w ∈ Ω, q.fal w = false) ∨
    ∀ η : List Nat, η.length = D.length → Models Ω (kappaPos D η) D → Accepts Ω (kappaPos D η) q

theorem map_impOf {D : List Cond} (hD : D.Nodup) {η : List Nat} (hlen : η.length = D.length) : D.map (impOf D η) = η := by
  refine List.ext_getElem (by rw [List.length_map, hlen]) fun i _ h2 => ?_
  rw [List.getElem_map, impOf, hD.idxOf_getElem i (hlen ▸ h2)]
  exact (List.getElem_eq_getD 0).symm

theorem specC_iff_pos (Ω : List World) (D : List Cond) (q : Cond) (hD : D.Nodup) : specC Ω D q ↔ specCpos Ω D q := by
  refine or_congr_right ⟨fun h η hlen hm => ?_, fun h imp hm => ?_⟩
  · have e : kappaC D (impOf D η) = kappaPos D η := by rw [kappaC_eq_pos, map_impOf hD hlen]
    rw [← e] at hm ⊢
    exact h _ hm
  · rw [IsCRep, kappaC_eq_pos] at hm
    rw [kappaC_eq_pos]
    exact h (D.map imp) (List.length_map _) hm

section
variable {σ : World → World}

theorem kappaPos_ren {D D' : List Cond} (h : BaseRen σ D D') (η : List Nat) (w' : World) :
    kappaPos D' η w' = kappaPos D η (σ w') := by
  induction h generalizing η with
  | nil => rfl
  | cons hab _ ih =>
    cases η with
    | nil => rfl
    | cons e t => rw [kappaPos, kappaPos, (hab w').2, ih t]

theorem Accepts_ren {Ω Ω' : List World} (T : Transport Ω Ω' σ) {c c' : Cond} (hc : VFS σ c c') {κ κ' : World → Nat}
    (hκ : ∀ w', κ' w' = κ (σ w')) : Accepts Ω' κ' c' ↔ Accepts Ω κ c :=
  T.exists_iff fun w' => and_congr (by rw [(hc w').1]) (T.forall_iff fun x' => by rw [(hc x').2, hκ, hκ])

/-- **C12 for skeptical c-inference**: bases related position-wise by "same verification / falsification behaviour
along a world transport" (re-keying, equivalent formulas, renamed atoms, extended signature) give the same verdict -/
theorem C12_c_invariance {Ω Ω' : List World} (T : Transport Ω Ω' σ) {D D' : List Cond} (h : BaseRen σ D D')
    {q q' : Cond} (hq : VFS σ q q') (hD : D.Nodup) (hD' : D'.Nodup) : specC Ω' D' q' ↔ specC Ω D q := by
  rw [specC_iff_pos Ω' D' q' hD', specC_iff_pos Ω D q hD]
  -- the three parts of `specCpos` are carried along one by one: no falsifying world, being a model, accepting the query
  have hfal : (∀ w' ∈ Ω', q'.fal w' = false) ↔ ∀ w ∈ Ω, q.fal w = false := T.forall_iff fun w' => by rw [(hq w').2]
  have hM : ∀ η, Models Ω' (kappaPos D' η) D' ↔ Models Ω (kappaPos D η) D := fun η =>
    (layerRel_ren σ).forall_iff h fun _ _ hc => Accepts_ren T hc (kappaPos_ren h η)
  have hA : ∀ η, Accepts Ω' (kappaPos D' η) q' ↔ Accepts Ω (kappaPos D η) q := fun η =>
    Accepts_ren T hq (kappaPos_ren h η)
  unfold specCpos
  rw [← h.length_eq, hfal]
  exact or_congr_right (forall_congr' fun η => imp_congr_right fun _ => imp_congr (hM η) (hA η))

end

/-- re-keying and replacing formulas by equivalent ones (same world list) -/
theorem C12_c_key_formula_invariance (Ω : List World) {D D' : List Cond} (h : BaseEq D D') {q q' : Cond} (hq : VFEq q q')
    (hD : D.Nodup) (hD' : D'.Nodup) : specC Ω D' q' ↔ specC Ω D q :=
  C12_c_invariance (Transport.refl Ω) h hq hD hD'

theorem nodup_of_keys (D : List Cond) (h : (D.map (·.key)).Nodup) : D.Nodup :=
  List.Pairwise.of_map (·.key) (fun _ _ hne e => hne (congrArg _ e)) h

/-- atom renaming / signature extension for skeptical c-inference (keys distinct, as in every belief base) -/
theorem C12_c_atom_renaming (ρ ρinv : Nat → Nat) (n n' : Nat) (hρ : ∀ i, i < n → ρ i < n' ∧ ρinv (ρ i) = i)
    (D : List Cond) (q : Cond) (hD : ∀ c ∈ D, c.within n = true) (hq : q.within n = true) (hk : (D.map (·.key)).Nodup) :
    specC (allWorlds n') (D.map (Cond.ren ρ)) (q.ren ρ) ↔ specC (allWorlds n) D q := by
  have hk' : ((D.map (Cond.ren ρ)).map (·.key)).Nodup := by rw [List.map_map]; exact hk
  exact C12_c_invariance (pull_transport ρ ρinv n n' hρ) (base_ren_BaseRen ρ n D hD) (cond_ren_VFS ρ n q hq)
    (nodup_of_keys D hk) (nodup_of_keys _ hk')

/-- the listing order of the base is irrelevant for skeptical c-inference -/
theorem C12_c_order_invariance (Ω : List World) {D D' : List Cond} (h : D.Perm D') (q : Cond) : specC Ω D' q ↔ specC Ω D q := by
  have hm : ∀ κ, Models Ω κ D' ↔ Models Ω κ D := fun κ => forall_congr' fun c => imp_congr_left h.symm.mem_iff
  refine or_congr_right (forall_congr' fun imp => ?_)
  rw [IsCRep, IsCRep, show kappaC D' imp = kappaC D imp from funext fun _ => (cost_perm imp (h.filter _)).symm, hm]

/-- non-vacuity of `C12_c_key_formula_invariance`: the penguin base under two keyings, with `f` rewritten as `¬¬f` -/
def exC12a : List Cond := [⟨.atom 2, .atom 0, 1⟩, ⟨.neg (.atom 2), .atom 1, 2⟩, ⟨.atom 0, .atom 1, 3⟩]
def exC12b : List Cond := [⟨.neg (.neg (.atom 2)), .atom 0, 7⟩, ⟨.neg (.atom 2), .atom 1, 0⟩, ⟨.atom 0, .atom 1, 30⟩]

example : exC12a.Nodup ∧ exC12b.Nodup ∧ BaseEq exC12a exC12b := by
  refine ⟨by decide +kernel, by decide +kernel,
    Rel2.cons (fun w => ?_) (Rel2.cons (fun _ => ⟨rfl, rfl⟩) (Rel2.cons (fun _ => ⟨rfl, rfl⟩) Rel2.nil))⟩
  simp only [Cond.ver, Cond.fal, Fm.eval, Bool.not_not, and_self]

end InfOCF
