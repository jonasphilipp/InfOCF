import InfOCFModel.Props.C05
import InfOCFModel.Props.C18
/-!
# C17  The c-representation ranking object is a minimal model of the base
-/
namespace InfOCF

/-- **rank = sum of the impacts of the falsified conditionals** -/
theorem C17_rank_is_cost (D : List Cond) (imp : Cond → Nat) (w : World) :
    kappaC D imp w = sumL ((D.filter (·.fal w)).map imp) := rfl

theorem mem_boxVectors (b v : List Nat) : v ∈ boxVectors b ↔ leVec v b = true := by
  induction b generalizing v with
  | nil => cases v <;> simp [boxVectors, leVec]
  | cons y ys ih =>
    simp only [boxVectors, List.mem_flatMap, List.mem_range, List.mem_map, ih, Nat.lt_succ_iff]
    constructor
    · rintro ⟨a, ha, t, ht, rfl⟩
      exact Bool.and_eq_true_iff.mpr ⟨decide_eq_true ha, ht⟩
    · intro h
      cases v with
      | nil => cases h
      | cons x xs =>
        obtain ⟨h1, h2⟩ := Bool.and_eq_true_iff.mp h
        exact ⟨x, of_decide_eq_true h1, xs, h2, rfl⟩

theorem box_all_iff (P : List Nat → Bool) (η : List Nat) :
    ((boxVectors η).all fun η' => η' == η || !(P η')) = true ↔ ∀ η' : List Nat, leVec η' η = true → P η' = true → η' = η := by
  rw [all_eq_or_not]
  exact forall_congr' fun η' => by rw [mem_boxVectors]

/-- **Pareto-minimality is decided by the finite box test**: no other c-representation (of any size) lies below `η` iff
none lies in the box below it; that `η` itself is one is the other conjunct of `C17_front_sound_complete` -/
theorem C17_pareto_box (Ω : List World) (D : List Cond) (η : List Nat) :
    paretoMinB Ω D η = true ↔ ∀ η' : List Nat, leVec η' η = true → isCRepB Ω D η' = true → η' = η :=
  box_all_iff (isCRepB Ω D) η

theorem leVec_refl (a : List Nat) : leVec a a = true := by
  induction a with
  | nil => rfl
  | cons x t ih => exact Bool.and_eq_true_iff.mpr ⟨decide_eq_true (Nat.le_refl x), ih⟩

theorem leVec_antisymm : ∀ (a b : List Nat), leVec a b = true → leVec b a = true → a = b := by
  intro a b h1 h2
  fun_induction leVec a b with
  | case1 => rfl
  | case2 x xs y ys ih =>
    simp only [leVec, Bool.and_eq_true, decide_eq_true_eq] at h1 h2
    rw [ih h1.2 h2.2, Nat.le_antisymm h1.1 h2.1]
  | case3 => cases h1

theorem leVec_trans (a b c : List Nat) (h1 : leVec a b = true) (h2 : leVec b c = true) : leVec a c = true := by
  fun_induction leVec a b generalizing c with
  | case1 => exact h2
  | case2 x xs y ys ih =>
    cases c with
    | nil => cases h2
    | cons z zs =>
      simp only [leVec, Bool.and_eq_true, decide_eq_true_eq] at h1 h2 ⊢
      exact ⟨Nat.le_trans h1.1 h2.1, ih zs h1.2 h2.2⟩
  | case3 => cases h1

/-- **the front inside a cube is exact**: a vector is reported iff it lies in the cube, is a c-representation and is
Pareto-minimal among all c-representations (soundness and completeness of the enumeration used as the oracle) -/
theorem C17_front_sound_complete (Ω : List World) (D : List Cond) (B : Nat) (η : List Nat) :
    η ∈ frontInCube Ω D B ↔
      (leVec η (D.map fun _ => B) = true ∧ isCRepB Ω D η = true ∧ paretoMinB Ω D η = true) := by
  rw [C17_pareto_box, frontInCube, List.mem_filter, all_eq_or_not, List.mem_filter, mem_boxVectors, and_assoc]
  refine and_congr_right fun hcube => and_congr_right fun _ => forall_congr' fun η' => ?_
  rw [List.mem_filter, mem_boxVectors]
  show (leVec η' (D.map fun _ => B) = true ∧ isCRepB Ω D η' = true → leVec η' η = true → η' = η) ↔
    (leVec η' η = true → isCRepB Ω D η' = true → η' = η)
  -- a vector below `η` lies in the cube with `η`
  exact ⟨fun h hle hrep => h ⟨leVec_trans η' η _ hle hcube, hrep⟩ hle, fun h hm hle => h hle hm.2⟩

/-- **every query c-inference entails is accepted by every c-representation**, in particular by the object's
(for a query with a falsifying world) -/
theorem C17_cinf_accepted (Ω : List World) (D : List Cond) (q : Cond) (imp : Cond → Nat)
    (hspec : specC Ω D q) (hf : ∃ w ∈ Ω, q.fal w = true) (hrep : IsCRep Ω D imp) :
    Accepts Ω (kappaC D imp) q :=
  (specC_iff hf D).mp hspec imp hrep

theorem isCRepB_iff (Ω : List World) (D : List Cond) (η : List Nat) (hlen : η.length = D.length) :
    isCRepB Ω D η = true ↔ IsCRep Ω D (impOf D η) := by
  simp only [isCRepB, hlen, beq_self_eq_true, Bool.true_and, acceptsAll, List.all_eq_true, IsCRep, Models]
  exact forall₂_congr fun c _ => C18_accept_iff Ω _ c

theorem isCRep_of_isCRepB {Ω : List World} {D : List Cond} {η : List Nat} (h : isCRepB Ω D η = true) :
    IsCRep Ω D (impOf D η) :=
  (isCRepB_iff Ω D η (eq_of_beq (Bool.and_eq_true_iff.mp h).1)).mp h

example : frontInCube (allWorlds 3) exC05 3 = [[1, 2, 2]] := by decide +kernel

end InfOCF
