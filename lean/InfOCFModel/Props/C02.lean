import InfOCFModel.Props.Common
/-!
# C02  System Z answers equal rank comparison under the Z-ranking

`ansZ false` is the model of what `InferenceManager(bb,'system-z').inference` computes in strict
mode (refusal, `general_inference` short cut, `_rec_inference`). `zrk P` is the Z-ranking.
-/
namespace InfOCF

/-- the Z-ranking in the property's words: 0 iff no conditional is falsified -/
theorem C02_zrank_zero (P : List (List Cond)) (w : World) :
    zrk P w = 0 ↔ ∀ c ∈ P.flatten, c.fal w = false :=
  zrk_eq_zero_iff P w

/-- otherwise 1 + the largest index of a layer containing
a falsified conditional. Two indices of a layer with a falsified member and none above are equal -/
theorem C02_zrank_succ (P : List (List Cond)) (w : World) (i : Nat) :
    zrk P w = i + 1 ↔
      (∃ L, P[i]? = some L ∧ L.any (·.fal w) = true) ∧
      ∀ j, i < j → ∀ L, P[j]? = some L → L.any (·.fal w) = false := by
  refine ⟨zrk_succ_layer, ?_⟩
  rintro ⟨⟨L, hL, ha⟩, hup⟩
  have h0 : zrk P w ≠ 0 := fun h0 => ne_true_of_eq_false (zrk_zero_layer h0 hL) ha
  obtain ⟨k, hk⟩ : ∃ k, zrk P w = k + 1 := ⟨_, (Nat.succ_pred_eq_of_ne_zero h0).symm⟩
  obtain ⟨⟨L', hL', ha'⟩, hup'⟩ := zrk_succ_layer hk
  rcases Nat.lt_trichotomy i k with h | rfl | h
  · rw [hup k h L' hL'] at ha'; cases ha'
  · exact hk
  · rw [hup' i h L hL] at ha; cases ha

/-- the `∀∃` form says that some verifying world lies strictly below *every* falsifying world, which is the property's
"the least rank of `A ∧ B` is below the least rank of `A ∧ ¬B`" (rank of a formula = least rank of its models, infinite if
none: hence `hf`) -/
theorem C02_rank_form (Ω : List World) (P : List (List Cond)) (q : Cond)
    (hf : ∃ w' ∈ Ω, q.fal w' = true) :
    specZ Ω P q = true ↔ ∃ w ∈ Ω, q.ver w = true ∧ ∀ w' ∈ Ω, q.fal w' = true → zrk P w < zrk P w' :=
  specZ_iff_accepts Ω P q hf

/-- **C02 (main)**: on a non-empty strongly consistent base System Z answers exactly the rank
comparison `kz(A∧B) < kz(A∧¬B)` in its `∀ falsifying ∃ verifying` form, for every query. -/
theorem C02_main (Ω : List World) (D : List Cond) (q : Cond) (P : List (List Cond))
    (hD : D ≠ []) (hP : partS Ω D = some P) :
    ansZ false Ω D q = .val (specZ Ω P q) := by
  rw [ansZ_eq (weakly := false) hD hP q, feasible_strict]; rfl

/-- queries the short cut answers (A or A∧¬B unsatisfiable) are True -/
theorem C02_trivial (Ω : List World) (D : List Cond) (q : Cond) (P : List (List Cond))
    (hD : D ≠ []) (hP : partS Ω D = some P) (ht : trivialQ Ω q = true) :
    ansZ false Ω D q = .val true := by
  rw [ansZ, wrap_some false hD hP, ← trivialQ_eq, ht]; rfl

/-- refusal: an empty base and a base without tolerance partition are not answered -/
theorem C02_refuse (Ω : List World) (D : List Cond) (q : Cond) :
    (D = [] → ansZ false Ω D q = .refuseEmpty) ∧
    (D ≠ [] → partS Ω D = none → ansZ false Ω D q = .refuseIncons) :=
  wrap_refuse false Ω D q _

/-! non-vacuity: the penguin base (two layers) and a query decided at the lower layer -/
section Example
def exΩ := allWorlds 3
-- atoms: 0 = b(ird), 1 = p(enguin), 2 = f(lies)
def exD : List Cond := [⟨.atom 2, .atom 0, 1⟩, ⟨.neg (.atom 2), .atom 1, 2⟩, ⟨.atom 0, .atom 1, 3⟩]
example : ∃ P, partS exΩ exD = some P ∧ P.length = 2 := by decide +kernel
example : ansZ false exΩ exD ⟨.atom 2, .and (.atom 0) (.neg (.atom 1)), 0⟩ = .val true := by decide +kernel
example : ansZ false exΩ exD ⟨.atom 2, .atom 1, 0⟩ = .val false := by decide +kernel
end Example

end InfOCF
