import InfOCFModel.Props.C10complete
/-!
# C10 for printed belief-base files: print, lex, parse is the identity

`baseToks sig name cs` are the tokens of a belief-base file in the layout of the shipped `.cl` files (`signature` line, one
`conditionals` block, one conditional per line); `baseText` writes them as characters. `parseBaseText` is the model of
`parse_belief_base` on a string: lexer, rule `ckbs`, end of input, the visitor's signature checks.
-/
namespace InfOCF

/-- one unit of fuel per identifier, as `parseIds` consumes it -/
theorem parseIds_idsToks (sig : List String) (hsig : sig ≠ []) (r : List LTok) (fuel : Nat) (hf : sig.length ≤ fuel) :
    parseIds fuel (idsToks sig ++ .newline :: r) = some (sig, r) := by
  induction sig using idsToks.induct generalizing fuel with
  | case1 => exact absurd rfl hsig
  | case2 s => cases fuel with | zero => nomatch hf | succ f1 => rfl
  | case3 s rest hne ih =>
    rw [idsToks.eq_3 _ _ hne]
    cases fuel with
    | zero => nomatch hf
    | succ f1 => rw [List.cons_append, List.cons_append, parseIds, ih hne f1 (Nat.le_of_succ_le_succ hf)]; rfl

theorem idsToks_length (sig : List String) : sig.length ≤ (idsToks sig).length := by
  induction sig using idsToks.induct with
  | case1 => exact Nat.le_refl 0
  | case2 s => exact Nat.le_refl 1
  | case3 s rest hne ih => rw [idsToks.eq_3 _ _ hne]; exact Nat.succ_le_succ (Nat.le_succ_of_le ih)

theorem condsToks_length (names : List String) (cs : List (Fm × Fm)) : cs.length ≤ (condsToks names cs).length := by
  induction cs using condsToks.induct with
  | case1 => exact Nat.le_refl 0
  | case2 c => exact Nat.succ_le_succ (Nat.zero_le _)
  | case3 c r hne ih =>
    rw [condsToks.eq_3 _ _ _ hne, List.length_append, List.length_cons, List.length_cons, List.length_cons]
    omega

theorem parseBlock_condsToks (names N : List String) (name : String) (cs : List (Fm × Fm))
    (hN : ∀ c ∈ cs, NamedIn names N c.1 ∧ NamedIn names N c.2) :
    parseBlock N (.kwConditionals :: .newline :: .id name :: .lbrace :: .newline :: (condsToks names cs ++ [.rbrace, .newline])) =
      some ((name, cs.map fun c => (PF.ofFm names c.1, PF.ofFm names c.2)), []) := by
  cases cs with
  | nil => rfl
  | cons c rest =>
    have hco := C10_conditions_order names N (c :: rest) (List.cons_ne_nil _ _) hN [.newline]
      ((condsToks names (c :: rest) ++ [LTok.rbrace, .newline]).length + 1) (by
        rw [List.length_append]
        exact Nat.le_succ_of_le (Nat.le_trans (condsToks_length names _) (Nat.le_add_right ..)))
    -- the conditionals begin with a parenthesis, not with the brace of the empty block
    obtain ⟨r1, hr1⟩ : ∃ r1, condsToks names (c :: rest) = .lpar :: r1 := by cases rest <;> exact ⟨_, rfl⟩
    rw [hr1, List.cons_append] at hco
    simp only [parseBlock, skipNL, hr1, List.cons_append, hco]

theorem parseBaseToks_baseToks (N sig : List String) (name : String) (cs : List (Fm × Fm))
    (hsig : sig ≠ []) (hdup : sig.eraseDups.length = sig.length) (hT : ¬ "Top" ∈ sig) (hB : ¬ "Bottom" ∈ sig)
    (hN : ∀ c ∈ cs, NamedIn sig N c.1 ∧ NamedIn sig N c.2) :
    parseBaseToks N (baseToks sig name cs) = some ⟨sig, name, cs.map fun c => (PF.ofFm sig c.1, PF.ofFm sig c.2)⟩ := by
  have hsk : ∀ r, skipNL (idsToks sig ++ r) = idsToks sig ++ r := by
    cases sig with
    | nil => exact absurd rfl hsig
    | cons a r => cases r <;> intro _ <;> rfl
  simp only [baseToks, parseBaseToks, skipNL]
  rw [hsk, parseIds_idsToks sig hsig _ _ (by
    rw [List.length_append]; exact Nat.le_succ_of_le (Nat.le_trans (idsToks_length sig) (Nat.le_add_right ..)))]
  simp only [parseBlocks, parseBlock_condsToks sig N name cs hN]
  simp [hdup, hT, hB]

theorem idsToks_mem : ∀ (sig : List String) (s : String), s ∈ sig → LTok.id s ∈ idsToks sig := by
  intro sig
  induction sig using idsToks.induct <;> simp_all [idsToks]

theorem idsToks_PTok : ∀ (sig : List String), (∀ s ∈ sig, PTok (.id s)) → ∀ t ∈ idsToks sig, PTok t := by
  intro sig
  induction sig using idsToks.induct with
  | case3 s r _ ih => simp only [idsToks, List.forall_mem_cons]; exact fun h => ⟨h.1, trivial, ih h.2⟩
  | _ => simp [idsToks]

theorem condsToks_PTok (names : List String) : ∀ (cs : List (Fm × Fm)),
    (∀ c ∈ cs, (∀ t ∈ fmToks names c.1, PTok t) ∧ (∀ t ∈ fmToks names c.2, PTok t)) → ∀ t ∈ condsToks names cs, PTok t := by
  have hc : ∀ c, ((∀ t ∈ fmToks names c.1, PTok t) ∧ (∀ t ∈ fmToks names c.2, PTok t)) → ∀ t ∈ condToks names c, PTok t := by
    intro c h
    simp only [condToks, List.forall_mem_cons, List.forall_mem_append]
    exact ⟨trivial, h.1, trivial, h.2, trivial, List.forall_mem_nil _⟩
  intro cs
  induction cs using condsToks.induct with
  | case1 => intro _ t ht; cases ht
  | case2 c => intro h; exact hc c (h c List.mem_cons_self)
  | case3 c r _ ih =>
    simp only [condsToks, List.forall_mem_cons, List.forall_mem_append]
    exact fun h => ⟨hc c h.1, trivial, trivial, ih h.2⟩

/-- **C10 (belief-base files)**: the printed file is read back as the declared signature, the block's name and the
conditionals in file order, consequent before and antecedent after the bar -/
theorem C10_base_roundtrip (sig : List String) (name : String) (cs : List (Fm × Fm))
    (hsig : sig ≠ []) (hn : ∀ s ∈ sig, AtomName s) (hdup : sig.eraseDups.length = sig.length)
    (hname : ValidId name ∧ name ≠ "signature" ∧ name ≠ "conditionals")
    (hcs : ∀ c ∈ cs, (∀ n, c.1.mentions n = true → n < sig.length) ∧ (∀ n, c.2.mentions n = true → n < sig.length)) :
    parseBaseText (baseText sig name cs) =
      some ⟨sig, name, cs.map fun c => (PF.ofFm sig c.1, PF.ofFm sig c.2)⟩ := by
  have hfm : ∀ f, (∀ n, f.mentions n = true → n < sig.length) → ∀ t ∈ fmToks sig f, PTok t :=
    fun f hf => fmToks_PTok sig f fun n hm => hn _ (getD_mem (hf n hm))
  have hPT : ∀ t ∈ baseToks sig name cs, PTok t := by
    simp only [baseToks, List.forall_mem_cons, List.forall_mem_append]
    exact ⟨trivial, trivial, idsToks_PTok sig fun s hs => (hn s hs).toFTok, trivial, trivial, trivial, hname, trivial, trivial,
      condsToks_PTok sig cs fun c hc => ⟨hfm c.1 (hcs c hc).1, hfm c.2 (hcs c hc).2⟩, trivial, trivial, List.forall_mem_nil _⟩
  rw [parseBaseText, baseText, lex_unlexChars _ hPT]
  -- every name of the signature is an identifier token of the file, hence in its name table
  have key : ∀ s ∈ sig, s ≠ "Top" ∧ s ≠ "Bottom" ∧ s ∈ idNames (baseToks sig name cs) :=
    fun s hs => ⟨(hn s hs).2.2.2.1, (hn s hs).2.2.2.2, mem_idNames
      (List.mem_cons_of_mem _ (List.mem_cons_of_mem _ (List.mem_append_left _ (idsToks_mem sig s hs))))⟩
  have hT : ¬ "Top" ∈ sig := fun h => (key _ h).1 rfl
  have hB : ¬ "Bottom" ∈ sig := fun h => (key _ h).2.1 rfl
  have hN : ∀ c ∈ cs, NamedIn sig (idNames (baseToks sig name cs)) c.1 ∧ NamedIn sig (idNames (baseToks sig name cs)) c.2 :=
    fun c hc => ⟨fun n hm => key _ (getD_mem ((hcs c hc).1 n hm)), fun n hm => key _ (getD_mem ((hcs c hc).2 n hm))⟩
  exact parseBaseToks_baseToks _ sig name cs hsig hdup hT hB hN

/-- non-vacuity: the hypotheses hold for the birds file -/
example : ∃ pb, parseBaseText (baseText ["b", "p", "f"] "birds" [(.atom 2, .atom 0), (.neg (.atom 2), .atom 1)]) = some pb ∧
    pb.signature = ["b", "p", "f"] ∧ pb.name = "birds" ∧
    pb.conds = [(.var "f", .var "b"), (.neg (.var "f"), .var "p")] := by
  refine ⟨_, C10_base_roundtrip _ _ _ (by simp) (by decide +kernel) (by decide +kernel) (by decide +kernel) ?_, rfl, rfl, rfl⟩
  intro c hc
  simp only [List.mem_cons, List.mem_nil_iff, or_false] at hc
  rcases hc with rfl | rfl <;> constructor <;> intro n hn <;> simp only [Fm.mentions, beq_iff_eq] at hn <;> subst hn <;> decide

/-- end of input is required: text behind the block is rejected -/
example : (parseBaseText "signature\n a,b\n\nconditionals\nkb{\n(a|b)\n}\n garbage").isNone = true := by
  rw [parseBaseText, show "signature\n a,b\n\nconditionals\nkb{\n(a|b)\n}\n garbage" = String.ofList _ from rfl,
    lex_ofList]
  decide +kernel

end InfOCF
