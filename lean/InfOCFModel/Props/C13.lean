import InfOCFModel.Manager
/-!
# C13  Answers are independent of batching, history and parallel evaluation; tables are row-exact

`fresh weakly Ω D body q` is the answer a new manager gives to `q` asked alone. An answer depends on the state
only through the cached partition, which no query changes: so sequential evaluation returns what parallel workers
return (`evalSeq_eq_evalPar`), and once the cache holds the fresh partition each of these is the fresh answer.
-/
namespace InfOCF

def fresh (weakly : Bool) (Ω : List World) (D : List Cond) (body : Body) (q : Cond) : Out :=
  wrap weakly Ω D q (body q)

def Good (weakly : Bool) (Ω : List World) (D : List Cond) (s : MState) : Prop :=
  s.pre = none ∨ s.pre = some (partFor weakly Ω D)

theorem preprocess_pre {weakly Ω D s} (h : Good weakly Ω D s) :
    (s.preprocess weakly Ω D).pre = some (partFor weakly Ω D) := by
  unfold MState.preprocess
  rcases h with h | h
  · simp [h]
  · simp [h]

theorem evalSeq_eq_evalPar {weakly Ω D} (body : Body) (batch : List QEntry) (s : MState) :
    (evalSeq weakly Ω D body s batch).2 = (evalPar weakly Ω D body s batch).2 ∧
    (evalSeq weakly Ω D body s batch).1.pre = s.pre := by
  induction batch generalizing s with
  | nil => exact ⟨rfl, rfl⟩
  | cons e rest ih =>
    -- `askOne` reads `s.pre` only and hands it on as it is (it writes `slot` and `pool`): workers started
    -- from the state it leaves answer as workers started from `s` do
    have hpre : (askOne weakly Ω D body s e.q).1.pre = s.pre := rfl
    have hpar : (evalPar weakly Ω D body (askOne weakly Ω D body s e.q).1 rest).2 =
        (evalPar weakly Ω D body s rest).2 := rfl
    obtain ⟨h1, h2⟩ := ih (askOne weakly Ω D body s e.q).1
    exact ⟨congrArg (_ :: ·) (h1.trans hpar), h2.trans hpre⟩

theorem call_eq (weakly Ω D) (body : Body) (s : MState) (batch : List QEntry) (parallel : Bool) :
    (call weakly Ω D body s batch parallel).2 =
      tableOf (evalPar weakly Ω D body (s.preprocess weakly Ω D) batch).2 batch ∧
    (call weakly Ω D body s batch parallel).1.pre = (s.preprocess weakly Ω D).pre := by
  cases parallel
  · obtain ⟨h1, h2⟩ := evalSeq_eq_evalPar body batch (s.preprocess weakly Ω D)
    exact ⟨congrArg (tableOf · batch) h1, h2⟩
  · exact ⟨rfl, rfl⟩

theorem evalPar_spec {weakly Ω D} (body : Body) (batch : List QEntry) {s : MState} (h : s.pre = some (partFor weakly Ω D)) :
    (evalPar weakly Ω D body s batch).2 = batch.map (fun e => (e.key, fresh weakly Ω D body e.q)) := by
  refine List.map_congr_left fun e _ => ?_
  unfold askOne
  rw [h]; exact congrArg _ (wrapWith_fresh weakly Ω D e.q (body e.q))

theorem dictGet_of_mem {d : List (Nat × Out)} (hnd : d.Pairwise (fun a b => a.1 ≠ b.1)) {k : Nat} {v : Out}
    (h : (k, v) ∈ d) : dictGet d k = some v := by
  induction d with
  | nil => cases h
  | cons p t ih =>
    obtain ⟨hp, ht⟩ := List.pairwise_cons.mp hnd
    rw [dictGet, List.find?_cons]
    rcases List.mem_cons.mp h with rfl | h'
    · rw [show ((k, v).1 == k) = true from beq_self_eq_true k]; rfl
    · rw [show (p.1 == k) = false from beq_false_of_ne (hp _ h')]; exact ih ht h'

theorem tableOf_spec (f : Cond → Out) (batch : List QEntry) (hnd : (batch.map (·.key)).Nodup) :
    tableOf (batch.map fun e => (e.key, f e.q)) batch = batch.map fun e => ⟨e.key, e.text, f e.q⟩ := by
  have hp : (dictOf (batch.map fun e => (e.key, f e.q))).Pairwise (fun a b => a.1 ≠ b.1) := by
    rw [dictOf, List.pairwise_reverse, List.pairwise_map]; exact (List.pairwise_map.mp hnd).imp Ne.symm
  refine List.map_congr_left fun e he => ?_
  rw [dictGet_of_mem hp (List.mem_reverse.mpr (List.mem_map.mpr ⟨e, he, rfl⟩))]; rfl

/-- **C13 (rows)**: a call on a manager in a good state returns exactly one row per submitted query, in
submission order, carrying that query's own key, text and the answer it gets when asked alone;
sequential and parallel evaluation alike; the state stays good -/
theorem C13_rows (weakly : Bool) (Ω : List World) (D : List Cond) (body : Body) (s : MState)
    (hs : Good weakly Ω D s) (batch : List QEntry) (hnd : (batch.map (·.key)).Nodup) (parallel : Bool) :
    (call weakly Ω D body s batch parallel).2 =
      batch.map (fun e => ⟨e.key, e.text, fresh weakly Ω D body e.q⟩) ∧
    Good weakly Ω D (call weakly Ω D body s batch parallel).1 := by
  have hr := preprocess_pre hs
  obtain ⟨h1, h2⟩ := call_eq weakly Ω D body s batch parallel
  rw [h1, evalPar_spec body batch hr]
  exact ⟨tableOf_spec _ batch hnd, Or.inr (h2.trans hr)⟩

/-- **C13 (history)**: along *every* sequence of calls on one manager (any interleaving of query sets,
repeated queries, sequential or parallel) each returned table is the row-exact table of fresh answers -/
theorem C13_history (weakly : Bool) (Ω : List World) (D : List Cond) (body : Body) :
    ∀ (calls : List (List QEntry × Bool)) (s : MState), Good weakly Ω D s →
    (∀ c ∈ calls, (c.1.map (·.key)).Nodup) →
    runCalls weakly Ω D body s calls =
      calls.map fun c => c.1.map fun e => ⟨e.key, e.text, fresh weakly Ω D body e.q⟩ := by
  intro calls
  induction calls with
  | nil => intro _ _ _; rfl
  | cons c rest ih =>
    intro s hs hnd
    obtain ⟨b, par⟩ := c
    obtain ⟨h1, h2⟩ := C13_rows weakly Ω D body s hs b (hnd (b, par) List.mem_cons_self) par
    simp only [runCalls, List.map_cons]
    rw [h1, ih _ h2 (fun c hc => hnd c (List.mem_cons_of_mem _ hc))]

/-- **C13 (batch independence)**: the row of a query inside any batch equals its row when asked alone -/
theorem C13_batch_independent (weakly : Bool) (Ω : List World) (D : List Cond) (body : Body) (s s' : MState)
    (hs : Good weakly Ω D s) (hs' : Good weakly Ω D s') (batch : List QEntry) (hnd : (batch.map (·.key)).Nodup)
    (par par' : Bool) (e : QEntry) (he : e ∈ batch) :
    (call weakly Ω D body s' [e] par').2 = [⟨e.key, e.text, fresh weakly Ω D body e.q⟩] ∧
    ⟨e.key, e.text, fresh weakly Ω D body e.q⟩ ∈ (call weakly Ω D body s batch par).2 := by
  constructor
  · rw [(C13_rows weakly Ω D body s' hs' [e] (List.pairwise_singleton _ _) par').1]; rfl
  · rw [(C13_rows weakly Ω D body s hs batch hnd par).1]
    exact List.mem_map.mpr ⟨e, he, rfl⟩

/-- **C13 (parallel = sequential)**; true of every state and batch (`call_eq`) -/
theorem C13_parallel (weakly : Bool) (Ω : List World) (D : List Cond) (body : Body) (s : MState)
    (hs : Good weakly Ω D s) (batch : List QEntry) (hnd : (batch.map (·.key)).Nodup) :
    (call weakly Ω D body s batch true).2 = (call weakly Ω D body s batch false).2 := by
  rw [(call_eq weakly Ω D body s batch true).1, (call_eq weakly Ω D body s batch false).1]

/-- the plumbing before the repair (results keyed by query text) gives the wrong key to a row whenever
two queries of a batch share their text: concrete witness -/
theorem C13_text_keyed_wrong :
    let batch : List QEntry := [⟨1, "(f|p)", ⟨.atom 2, .atom 1, 1⟩⟩, ⟨2, "(w|p)", ⟨.atom 3, .atom 1, 2⟩⟩, ⟨3, "(f|p)", ⟨.atom 2, .atom 1, 3⟩⟩]
    let results : List (String × (Nat × Out)) := batch.map fun e => (e.text, (e.key, Out.val false))
    (tableOfText results batch).map (·.key) = [3, 2, 3] := by
  decide +kernel

/-! non-vacuity: the initial state is good; a two-call history with a repeated query on the penguin base -/
example (weakly Ω D) : Good weakly Ω D MState.init := Or.inl rfl
example :
    runCalls false (allWorlds 3) [⟨.atom 2, .atom 0, 1⟩, ⟨.neg (.atom 2), .atom 1, 2⟩, ⟨.atom 0, .atom 1, 3⟩]
      (fun q fin Ωf => bodyZ false fin Ωf q) MState.init
      [([⟨7, "(f|p)", ⟨.atom 2, .atom 1, 7⟩⟩, ⟨0, "(b|p)", ⟨.atom 0, .atom 1, 0⟩⟩], false),
       ([⟨4, "(b|p)", ⟨.atom 0, .atom 1, 4⟩⟩], true)] =
    [[⟨7, "(f|p)", .val false⟩, ⟨0, "(b|p)", .val true⟩], [⟨4, "(b|p)", .val true⟩]] := by decide +kernel

end InfOCF
