import InfOCFModel.Props.C17
/-!
# The Pareto-front enumeration loop (`solve_pareto_front`) is exact for every Pareto oracle

`solve_pareto_front` asks z3's Pareto optimizer for a model, records its objective vector `m`, adds the blocking clause
"some objective is strictly smaller than in `m`" (which excludes exactly the vectors `≥ m`), and repeats until the
optimizer reports unsat. The optimizer is a parameter: any oracle that, given the recorded vectors, returns *some*
feasible vector that is not above a recorded one and is Pareto-minimal among those, or `none` iff no such vector exists.
The order of the answers, and whether the enumeration ends, are **not** assumed. The same loop serves c-inference
(`c_inference_pareto_front`) and c-revision (`c_revision_pareto_front`).
-/
namespace InfOCF

/-- not above any recorded vector (the conjunction of the blocking clauses) -/
def unblocked (B : List (List Nat)) (v : List Nat) : Bool := B.all fun b => !(leVec b v)

structure ParetoOracle (Feas : List Nat → Prop) where
  pick : List (List Nat) → Option (List Nat)
  sound : ∀ B v, pick B = some v → Feas v ∧ unblocked B v = true
  minimal : ∀ B v, pick B = some v → ∀ u, Feas u → unblocked B u = true → leVec u v = true → u = v
  complete : ∀ B, pick B = none → ∀ u, Feas u → unblocked B u = false

def paretoLoop {Feas : List Nat → Prop} (o : ParetoOracle Feas) : Nat → List (List Nat) → Option (List (List Nat))
  | fuel, B =>
    match o.pick B with
    | none => some B
    | some v =>
      match fuel with
      | 0 => none
      | fuel + 1 => paretoLoop o fuel (v :: B)

def ParetoMin (Feas : List Nat → Prop) (v : List Nat) : Prop :=
  Feas v ∧ ∀ u, Feas u → leVec u v = true → u = v

def FrontInv (Feas : List Nat → Prop) (B : List (List Nat)) : Prop :=
  (∀ v ∈ B, ParetoMin Feas v) ∧ B.Nodup

theorem unblocked_iff {B : List (List Nat)} {v : List Nat} :
    unblocked B v = true ↔ ∀ b ∈ B, leVec b v = false := by
  simp only [unblocked, List.all_eq_true, Bool.not_eq_true']

theorem unblocked_of_below {B : List (List Nat)} {u v : List Nat} (hv : unblocked B v = true) (huv : leVec u v = true) :
    unblocked B u = true :=
  unblocked_iff.mpr fun b hb => Bool.eq_false_iff.mpr fun hbu =>
    Bool.eq_false_iff.mp (unblocked_iff.mp hv b hb) (leVec_trans b u v hbu huv)

theorem frontInv_step {Feas : List Nat → Prop} (o : ParetoOracle Feas) (B : List (List Nat)) (v : List Nat)
    (hinv : FrontInv Feas B) (hp : o.pick B = some v) : FrontInv Feas (v :: B) := by
  obtain ⟨hfeas, hunb⟩ := o.sound B v hp
  refine ⟨fun x hx => ?_, List.nodup_cons.mpr ⟨fun hmem => ?_, hinv.2⟩⟩
  · rcases List.mem_cons.mp hx with rfl | hx
    · exact ⟨hfeas, fun u hu huv => o.minimal B _ hp u hu (unblocked_of_below hunb huv) huv⟩
    · exact hinv.1 x hx
  · have := unblocked_iff.mp hunb v hmem
    rw [leVec_refl] at this; cases this

theorem paretoLoop_inv {Feas : List Nat → Prop} (o : ParetoOracle Feas) (fuel : Nat) (B R : List (List Nat))
    (hinv : FrontInv Feas B) (h : paretoLoop o fuel B = some R) : FrontInv Feas R ∧ o.pick R = none := by
  -- the three branches of `paretoLoop`: unsat; an answer with no fuel left; an answer recorded and the loop continued
  fun_induction paretoLoop o fuel B with
  | case1 _ B hp => cases h; exact ⟨hinv, hp⟩
  | case2 => cases h
  | case3 B v hp fuel ih => exact ih (frontInv_step o B v hinv hp) h

/-- **C17 / C19 (front enumeration)**: for every Pareto oracle, whenever the loop ends its result is exactly the set of
Pareto-minimal feasible vectors, without repetition -/
theorem C17_front_loop_exact {Feas : List Nat → Prop} (o : ParetoOracle Feas) (fuel : Nat) (R : List (List Nat))
    (h : paretoLoop o fuel [] = some R) :
    (∀ v, v ∈ R ↔ ParetoMin Feas v) ∧ R.Nodup := by
  obtain ⟨⟨hmin, hnd⟩, hnone⟩ := paretoLoop_inv o fuel [] R ⟨List.forall_mem_nil _, List.nodup_nil⟩ h
  refine ⟨fun v => ⟨hmin v, fun hv => ?_⟩, hnd⟩
  -- v is feasible, so the final "unsat" means some recorded vector lies below it; minimality makes them equal
  have hb := o.complete R hnone v hv.1
  simp only [unblocked, List.all_eq_false, Bool.not_eq_true', Bool.not_eq_false] at hb
  obtain ⟨b, hbR, hle⟩ := hb
  exact hv.2 b (hmin b hbR).1 hle ▸ hbR

/-- **termination**: if the Pareto-minimal feasible vectors all lie in a finite list `F` (e.g. a cube), the loop ends within
`F.length` answers of the optimizer — each answer is a new Pareto-minimal vector -/
theorem paretoLoop_terminates {Feas : List Nat → Prop} (o : ParetoOracle Feas) (F : List (List Nat))
    (hF : ∀ v, ParetoMin Feas v → v ∈ F) (fuel : Nat) (B : List (List Nat)) (hinv : FrontInv Feas B)
    (hlen : F.length ≤ B.length + fuel) : ∃ R, paretoLoop o fuel B = some R := by
  fun_induction paretoLoop o fuel B with
  | case1 _ B hp => exact ⟨B, rfl⟩
  | case2 B v hp =>
    -- an answer with no fuel left: `v :: B` would be more than `F.length` distinct members of `F`
    have hinv' := frontInv_step o B v hinv hp
    have := hinv'.2.length_le_of_subset fun x hx => hF x (hinv'.1 x hx)
    exact absurd (Nat.le_trans this hlen) (Nat.not_succ_le_self _)
  | case3 B v hp fuel ih =>
    exact ih (frontInv_step o B v hinv hp) (by rw [List.length_cons, Nat.add_right_comm]; exact hlen)

/-- total correctness under the finiteness hypothesis -/
theorem C17_front_loop_total {Feas : List Nat → Prop} (o : ParetoOracle Feas) (F : List (List Nat))
    (hF : ∀ v, ParetoMin Feas v → v ∈ F) :
    ∃ R, paretoLoop o F.length [] = some R ∧ (∀ v, v ∈ R ↔ ParetoMin Feas v) ∧ R.Nodup := by
  obtain ⟨R, hR⟩ := paretoLoop_terminates o F hF F.length [] ⟨List.forall_mem_nil _, List.nodup_nil⟩ (Nat.le_add_left _ _)
  exact ⟨R, hR, C17_front_loop_exact o F.length R hR⟩

/-- why the clause must exclude the whole cone above `m`: a weaker clause that only says "differs from `m`" leaves the
dominated vectors allowed (here `[2]` after `[1]`). (The code before the repair had no blocking clause at all and returned
the same optimum for ever.) -/
theorem C17_blocking_by_inequality_wrong :
    ∃ (m v : List Nat), v ≠ m ∧ leVec m v = true ∧ unblocked [m] v = false := ⟨[1], [2], by decide, by decide, by decide⟩

/-- non-vacuity: an oracle over the feasible set `{[1,2],[2,1],[2,2]}` exists, the loop ends and returns the two minimal vectors -/
def exFeas (v : List Nat) : Prop := v = [1, 2] ∨ v = [2, 1] ∨ v = [2, 2]

def exPick (B : List (List Nat)) : Option (List Nat) :=
  if unblocked B [1, 2] then some [1, 2] else if unblocked B [2, 1] then some [2, 1] else none

theorem unblocked_22_of (B : List (List Nat)) (h : unblocked B [2, 2] = true) : unblocked B [1, 2] = true :=
  unblocked_of_below h (by decide)

def exOracle : ParetoOracle exFeas where
  pick := exPick
  sound := by
    intro B v h
    unfold exPick at h
    split at h
    · simp only [Option.some.injEq] at h; subst h; exact ⟨Or.inl rfl, by assumption⟩
    · split at h
      · simp only [Option.some.injEq] at h; subst h; exact ⟨Or.inr (Or.inl rfl), by assumption⟩
      · cases h
  minimal := by
    intro B v h u hu _ hle
    unfold exPick at h
    split at h
    · simp only [Option.some.injEq] at h; subst h
      rcases hu with rfl | rfl | rfl
      · rfl
      · exact absurd hle (by decide)
      · exact absurd hle (by decide)
    · split at h
      · simp only [Option.some.injEq] at h; subst h
        rcases hu with rfl | rfl | rfl
        · exact absurd hle (by decide)
        · rfl
        · exact absurd hle (by decide)
      · cases h
  complete := by
    intro B h u hu
    unfold exPick at h
    split at h
    · cases h
    · rename_i h1
      split at h
      · cases h
      · rename_i h2
        rcases hu with rfl | rfl | rfl
        · simpa using h1
        · simpa using h2
        · cases hb : unblocked B [2, 2] with
          | false => rfl
          | true => exact absurd (unblocked_22_of B hb) h1

example : paretoLoop exOracle 5 [] = some [[2, 1], [1, 2]] := by decide +kernel

end InfOCF
