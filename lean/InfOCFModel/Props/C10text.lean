import InfOCFModel.Props.C10lex
import InfOCFModel.Props.C10
import InfOCFModel.Props.C10sound
/-!
# C10 at the level of text: print, lex, parse is the identity

`text names f` writes the formula `f` (atoms named by `names`) in the concrete syntax of the grammar with
minimal parentheses, one blank after every token. The printed tokens have the documented shape (`DFm_fmToks`), under whatever
table they are read; `C10_text_roundtrip` is the lexer's round trip (`Props/C10lex.lean`) followed by that.
-/
namespace InfOCF

theorem pp_id_mentions (f : Fm) (lvl n : Nat) : Tok.id n ∈ pp lvl f ↔ f.mentions n = true := by
  fun_induction pp lvl f <;> simp_all [Fm.mentions]

def tokRen (ρ : Nat → Nat) : Tok → Tok
  | .id n => .id (ρ n)
  | t => t

theorem pp_ren (ρ : Nat → Nat) (f : Fm) (lvl : Nat) : (pp lvl f).map (tokRen ρ) = pp lvl (f.ren ρ) := by
  induction f generalizing lvl with
  | and a b iha ihb | or a b iha ihb => simp only [pp, Fm.ren]; split <;> simp [iha, ihb, tokRen]
  | _ => simp [pp, Fm.ren, tokRen, *]

theorem mapM_pointwise {α β γ : Type} (g1 : α → β) (h : β → Option γ) (g2 : α → γ) :
    ∀ (l : List α), (∀ t ∈ l, h (g1 t) = some (g2 t)) → (l.map g1).mapM h = some (l.map g2) := by
  intro l
  induction l with
  | nil => intro _; rfl
  | cons a t ih => intro hh; rw [List.forall_mem_cons] at hh; simp only [List.map_cons, List.mapM_cons, hh.1, ih hh.2]; rfl

theorem ofFm_ren (names names' : List String) (f : Fm) (h : ∀ n, f.mentions n = true → names.getD n "" ∈ names') :
    PF.ofFm names' (f.ren fun n => names'.idxOf (names.getD n "")) = PF.ofFm names f := by
  induction f with
  | atom i =>
    have hlt := List.idxOf_lt_length_of_mem (h i (beq_self_eq_true i))
    rw [Fm.ren, PF.ofFm, ← List.getElem_eq_getD (h := hlt), List.getElem_idxOf]; rfl
  | and a b iha ihb | or a b iha ihb =>
    unfold Fm.ren PF.ofFm
    rw [iha fun n hn => h n (Bool.or_eq_true_iff.2 (.inl hn)), ihb fun n hn => h n (Bool.or_eq_true_iff.2 (.inr hn))]
  | neg a ih => exact congrArg PF.neg (ih h)
  | _ => rfl

theorem getD_mem {names : List String} {n : Nat} (hlt : n < names.length) : names.getD n "" ∈ names :=
  List.getElem_eq_getD "" ▸ List.getElem_mem hlt

theorem mem_idNames {ts : List LTok} {s : String} (h : LTok.id s ∈ ts) : s ∈ idNames ts := by
  rw [idNames, List.mem_eraseDups, List.mem_filterMap]
  exact ⟨.id s, h, rfl⟩

theorem fmToks_PTok (names : List String) (f : Fm) (h : ∀ n, f.mentions n = true → AtomName (names.getD n "")) :
    ∀ t ∈ fmToks names f, PTok t := by
  intro t ht
  obtain ⟨u, hu, rfl⟩ := List.mem_map.mp ht
  cases u with
  | id n => exact (h n ((pp_id_mentions f 2 n).mp hu)).toFTok
  | top | bot => simp only [tokL, PTok]; decide +kernel
  | _ => trivial

theorem mapM_toFmTok (names names' : List String) (f : Fm)
    (h : ∀ n, f.mentions n = true → names.getD n "" ≠ "Top" ∧ names.getD n "" ≠ "Bottom") :
    (fmToks names f).mapM (toFmTok names') = some (pp 2 (f.ren fun n => names'.idxOf (names.getD n ""))) := by
  rw [← pp_ren]
  apply mapM_pointwise
  intro t ht
  cases t with
  | id n => simp only [tokL, toFmTok, tokRen, beq_iff_eq, h n ((pp_id_mentions f 2 n).mp ht), ↓reduceIte]
  | _ => rfl

/-- `names` is the table `f` is printed with, `names'` the one under which the file is read (for `parseBaseText`: the
identifiers of the whole file, in order of occurrence) -/
def NamedIn (names names' : List String) (f : Fm) : Prop :=
  ∀ n, f.mentions n = true → names.getD n "" ≠ "Top" ∧ names.getD n "" ≠ "Bottom" ∧ names.getD n "" ∈ names'

/-- the model numbers the atoms by `names'`, not by `names`; `ofFm_ren` undoes it -/
theorem DFm_fmToks (names names' : List String) (f : Fm) (h : NamedIn names names' f) :
    DFm names' (fmToks names f) (PF.ofFm names f) :=
  ⟨_, _, mapM_toFmTok names names' f fun n hn => ⟨(h n hn).1, (h n hn).2.1⟩, pp_derives _ 2 (Nat.le_refl _),
    (ofFm_ren names names' f fun n hn => (h n hn).2.2).symm⟩

theorem parseFormulaText_complete {s : String} {ts : List LTok} {pf : PF} (hl : lex s = some ts)
    (hd : DFm (idNames ts) ts pf) : parseFormulaText s = some pf := by
  obtain ⟨fts, f, hm, hD, rfl⟩ := hd
  simp only [parseFormulaText, hl, hm, parseFm_complete fts f hD, Option.map_some]

/-- **C10, text level**: the text of a formula over valid atom names is read back (lexer model, then parser model, as
`parse_formula` runs them) as exactly that formula -/
theorem C10_text_roundtrip (names : List String) (f : Fm) (hn : ∀ s ∈ names, AtomName s)
    (hf : ∀ n, f.mentions n = true → n < names.length) :
    parseFormulaText (text names f) = some (PF.ofFm names f) := by
  have hname : ∀ n, f.mentions n = true → AtomName (names.getD n "") := fun n hm => hn _ (getD_mem (hf n hm))
  exact parseFormulaText_complete (lex_unlexChars _ (fmToks_PTok names f hname))
    (DFm_fmToks names _ f fun n hm => ⟨(hname n hm).2.2.2.1, (hname n hm).2.2.2.2,
      mem_idNames (List.mem_map.mpr ⟨.id n, (pp_id_mentions f 2 n).mpr hm, rfl⟩)⟩)

/-- non-vacuity of `AtomName` -/
example : AtomName "b" ∧ AtomName "f-1" ∧ ¬ AtomName "Top" ∧ ¬ AtomName "1a" := by decide +kernel

/-! the text level on examples (comments, blanks, a rejected text) -/
example : parseFormulaText "a , b ; !c,d" =
    some (.or (.and (.var "a") (.var "b")) (.and (.neg (.var "c")) (.var "d"))) := by
  rw [parseFormulaText, show "a , b ; !c,d" = String.ofList _ from rfl, lex_ofList]; decide +kernel
example : parseFormulaText "a b" = none := by
  rw [parseFormulaText, show "a b" = String.ofList _ from rfl, lex_ofList]; decide +kernel
example : parseFormulaText "!(a;Top), /* x */ b // c" = some (.and (.neg (.or (.var "a") .top)) (.var "b")) := by
  rw [parseFormulaText, show "!(a;Top), /* x */ b // c" = String.ofList _ from rfl, lex_ofList]; decide +kernel

end InfOCF
