import InfOCFModel.Props.C12
import InfOCFModel.Parser
/-!
# C12 (continued)  Atom renaming and signature extension

`C12.lean` proves every answer invariant along a transport of world lists. Here the transport is exhibited: the
atoms are renamed by an injection `ρ` of the signature `{0..n-1}` into a signature `{0..n'-1}` (a permutation when
`n' = n`, a proper extension when `n' > n`), and `pull ρ n` reads a world of the large signature as a world of the
small one (`pull_transport`).
-/
namespace InfOCF

def Cond.ren (ρ : Nat → Nat) (c : Cond) : Cond := ⟨c.cons.ren ρ, c.ante.ren ρ, c.key⟩

def Fm.within (n : Nat) : Fm → Bool
  | .top => true
  | .bot => true
  | .atom i => decide (i < n)
  | .neg a => a.within n
  | .and a b => a.within n && b.within n
  | .or a b => a.within n && b.within n

def Cond.within (n : Nat) (c : Cond) : Bool := c.cons.within n && c.ante.within n

def pull (ρ : Nat → Nat) (n : Nat) (w' : World) : World := (List.range n).map fun i => w'.getD (ρ i) false

theorem pull_length (ρ : Nat → Nat) (n : Nat) (w' : World) : (pull ρ n w').length = n := by
  rw [pull, List.length_map, List.length_range]

theorem pull_getD (ρ : Nat → Nat) (n : Nat) (w' : World) (i : Nat) (hi : i < n) :
    (pull ρ n w').getD i false = w'.getD (ρ i) false := by
  rw [pull, List.getD_eq_getElem?_getD, List.getElem?_map, List.getElem?_range hi]; rfl

theorem eval_ren (ρ : Nat → Nat) (n : Nat) (w' : World) (f : Fm) (h : f.within n = true) :
    (f.ren ρ).eval w' = f.eval (pull ρ n w') := by
  induction f with
  | top | bot => rfl
  | atom i => exact (pull_getD ρ n w' i (of_decide_eq_true h)).symm
  | neg a ih => simp only [Fm.ren, Fm.eval, ih h]
  | and a b iha ihb | or a b iha ihb =>
    simp only [Fm.within, Bool.and_eq_true] at h
    simp only [Fm.ren, Fm.eval, iha h.1, ihb h.2]

theorem cond_ren_VFS (ρ : Nat → Nat) (n : Nat) (c : Cond) (h : c.within n = true) : VFS (pull ρ n) c (c.ren ρ) := by
  simp only [Cond.within, Bool.and_eq_true] at h
  intro w'
  simp [Cond.ver, Cond.fal, Cond.ren, eval_ren ρ n w' _ h.1, eval_ren ρ n w' _ h.2]

theorem base_ren_BaseRen (ρ : Nat → Nat) (n : Nat) (D : List Cond) (h : ∀ c ∈ D, c.within n = true) :
    BaseRen (pull ρ n) D (D.map (Cond.ren ρ)) := by
  induction D with
  | nil => exact Rel2.nil
  | cons c t ih =>
    have h' := List.forall_mem_cons.mp h
    exact Rel2.cons (cond_ren_VFS ρ n c h'.1) (ih h'.2)

theorem pull_transport (ρ ρinv : Nat → Nat) (n n' : Nat) (hρ : ∀ i, i < n → ρ i < n' ∧ ρinv (ρ i) = i) :
    Transport (allWorlds n) (allWorlds n') (pull ρ n) := by
  constructor
  · intro w' _
    exact mem_allWorlds.mpr (pull_length ρ n w')
  · -- the preimage of `w` is its pull-back along `ρinv`
    intro w hw
    rw [mem_allWorlds] at hw
    refine ⟨pull ρinv n' w, mem_allWorlds.mpr (pull_length ρinv n' w), ?_⟩
    refine List.ext_getElem ((pull_length ρ n _).trans hw.symm) fun i _ hi => ?_
    have hi : i < n := hw ▸ hi
    rw [List.getElem_eq_getD false, List.getElem_eq_getD false, pull_getD ρ n _ i hi,
      pull_getD ρinv n' w _ (hρ i hi).1, (hρ i hi).2]

/-- **C12, atom renaming / signature change**: renaming the atoms of the signature `{0..n-1}` by an injection `ρ` into
`{0..n'-1}` (left inverse `ρinv`) changes no answer of any operator in either mode -/
theorem C12_atom_renaming (ρ ρinv : Nat → Nat) (n n' : Nat) (hρ : ∀ i, i < n → ρ i < n' ∧ ρinv (ρ i) = i)
    (weakly : Bool) (D : List Cond) (q : Cond) (hD : ∀ c ∈ D, c.within n = true) (hq : q.within n = true) :
    ansP weakly (allWorlds n') (D.map (Cond.ren ρ)) (q.ren ρ) = ansP weakly (allWorlds n) D q ∧
    ansZ weakly (allWorlds n') (D.map (Cond.ren ρ)) (q.ren ρ) = ansZ weakly (allWorlds n) D q ∧
    ansW weakly (allWorlds n') (D.map (Cond.ren ρ)) (q.ren ρ) = ansW weakly (allWorlds n) D q ∧
    ansLex weakly (allWorlds n') (D.map (Cond.ren ρ)) (q.ren ρ) = ansLex weakly (allWorlds n) D q :=
  ans_ren weakly (pull_transport ρ ρinv n n' hρ) (base_ren_BaseRen ρ n D hD) (cond_ren_VFS ρ n q hq)

/-- the partition keeps its shape under atom renaming -/
theorem C12_atom_renaming_part (ρ ρinv : Nat → Nat) (n n' : Nat) (hρ : ∀ i, i < n → ρ i < n' ∧ ρinv (ρ i) = i)
    (weakly : Bool) (D : List Cond) (hD : ∀ c ∈ D, c.within n = true) :
    (partFor weakly (allWorlds n) D = none ∧ partFor weakly (allWorlds n') (D.map (Cond.ren ρ)) = none) ∨
    ∃ P P', partFor weakly (allWorlds n) D = some P ∧ partFor weakly (allWorlds n') (D.map (Cond.ren ρ)) = some P' ∧
      PartRen (pull ρ n) P P' :=
  partFor_sim (layerRel_ren _) weakly (pull_transport ρ ρinv n n' hρ) (base_ren_BaseRen ρ n D hD)

theorem Cond.ren_id (c : Cond) : c.ren id = c := by
  cases c; simp [Cond.ren, Fm.ren_id]

/-- **C12, signature extension**: evaluating over a larger signature whose extra atoms the base and the query do not
mention changes no answer -/
theorem C12_signature_extension (n n' : Nat) (hn : n ≤ n') (weakly : Bool) (D : List Cond) (q : Cond)
    (hD : ∀ c ∈ D, c.within n = true) (hq : q.within n = true) :
    ansP weakly (allWorlds n') D q = ansP weakly (allWorlds n) D q ∧
    ansZ weakly (allWorlds n') D q = ansZ weakly (allWorlds n) D q ∧
    ansW weakly (allWorlds n') D q = ansW weakly (allWorlds n) D q ∧
    ansLex weakly (allWorlds n') D q = ansLex weakly (allWorlds n) D q := by
  have := C12_atom_renaming id id n n' (fun i hi => ⟨Nat.lt_of_lt_of_le hi hn, rfl⟩) weakly D q hD hq
  rwa [show Cond.ren id = id from funext Cond.ren_id, List.map_id] at this

/-- non-vacuity: swapping the two atoms of the penguin-free base `(a1|a0)` is a renaming in the sense of the theorem -/
example : (∀ i, i < 2 → (fun i => 1 - i) i < 2 ∧ (fun i => 1 - i) ((fun i => 1 - i) i) = i) ∧
    (⟨.atom 1, .atom 0, 1⟩ : Cond).within 2 = true ∧
    ansZ false (allWorlds 2) [⟨.atom 1, .atom 0, 1⟩] ⟨.atom 1, .atom 0, 0⟩ = .val true := by
  decide +kernel

end InfOCF
