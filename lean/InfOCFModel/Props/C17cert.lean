import InfOCFModel.LinCert
import InfOCFModel.Props.C05cert
import InfOCFModel.Props.C17
/-!
# C17, completeness of the Pareto front: an accepted certificate (`frontCertCheck`, LinCert.lean) proves that every
c-representation dominates a member of the front

With the finite box test on each returned vector (`C17_pareto_box`) this gives "the front contains every
Pareto-minimal vector"; that last step is not stated as a theorem.
-/
namespace InfOCF

theorem dotL_addV (a b x : List Nat) : dotL (addV a b) x = dotL a x + dotL b x := by
  fun_induction addV a b generalizing x with
  | case1 a0 as b0 bs ih =>
    cases x with
    | nil => rfl
    | cons x0 xs => rw [dotL, dotL, dotL, ih, Nat.add_mul, Nat.add_add_add_comm]
  | case2 => exact (Nat.zero_add _).symm
  | case3 => rfl

theorem dotL_smulV (m : Nat) (a x : List Nat) : dotL (smulV m a) x = m * dotL a x := by
  induction a generalizing x with
  | nil => rfl
  | cons a0 as ih =>
    cases x with
    | nil => rfl
    | cons x0 xs =>
      show m * a0 * x0 + dotL (smulV m as) xs = m * (a0 * x0 + dotL as xs)
      rw [ih xs, Nat.mul_add, Nat.mul_assoc]

theorem leV_dot (a b x : List Nat) (h : leV a b = true) : dotL a x ≤ dotL b x := by
  fun_induction leV a b generalizing x with
  | case1 => exact Nat.zero_le _
  | case2 a0 as ih =>
    cases x with
    | nil => exact Nat.zero_le _
    | cons x0 xs =>
      simp only [Bool.and_eq_true, beq_iff_eq] at h
      show a0 * x0 + dotL as xs ≤ 0
      rw [h.1, Nat.zero_mul]; exact (Nat.zero_add _).symm ▸ ih xs h.2
  | case3 a0 as b0 bs ih =>
    cases x with
    | nil => exact Nat.zero_le _
    | cons x0 xs =>
      simp only [Bool.and_eq_true, decide_eq_true_eq] at h
      exact Nat.add_le_add (Nat.mul_le_mul_right x0 h.1) (ih xs h.2)

theorem weighted_lin (x : List Nat) (L : List (Nat × LIneq)) (h : ∀ p ∈ L, p.2.holds x) :
    dotL (sumLC L) x + sumLK L ≤ dotL (sumRC L) x + sumRK L := by
  induction L with
  | nil => exact Nat.le_refl _
  | cons p t ih =>
    have ht := ih fun q hq => h q (List.mem_cons_of_mem _ hq)
    have hp := Nat.mul_le_mul_left p.1 (h p List.mem_cons_self)
    rw [Nat.mul_add, Nat.mul_add] at hp
    simp only [sumLC, sumRC, sumLK, sumRK, dotL_addV, dotL_smulV]
    rw [Nat.add_add_add_comm, Nat.add_add_add_comm (p.1 * dotL p.2.rc x)]
    exact Nat.add_le_add hp ht

theorem linRefute_sound (x : List Nat) (L : List (Nat × LIneq)) (h : ∀ p ∈ L, p.2.holds x)
    (hr : linRefute L = true) : False := by
  unfold linRefute at hr
  simp only [Bool.and_eq_true, decide_eq_true_eq] at hr
  -- Farkas step with constants: coefficients dominated, constant strictly smaller
  have : dotL (sumLC L) x + sumLK L < dotL (sumLC L) x + sumLK L :=
    calc dotL (sumLC L) x + sumLK L
        ≤ dotL (sumRC L) x + sumRK L := weighted_lin x L h
      _ < dotL (sumLC L) x + sumLK L := Nat.add_lt_add_of_le_of_lt (leV_dot _ _ x hr.1) hr.2
  exact Nat.lt_irrefl _ this

theorem dotL_unitV (j : Nat) (x : List Nat) : dotL (unitV j) x = x.getD j 0 := by
  induction j generalizing x with
  | zero => cases x with | nil => rfl | cons a xs => exact Nat.one_mul a
  | succ j ih =>
    cases x with
    | nil => rfl
    | cons a xs =>
      show 0 * a + dotL (unitV j) xs = xs.getD j 0
      rw [ih xs, Nat.zero_mul, Nat.zero_add]

theorem dotL_map (D : List Cond) (imp f : Cond → Nat) : dotL (D.map f) (D.map imp) = valF D imp f := by
  unfold valF
  induction D with
  | nil => rfl
  | cons a t ih => simp only [List.map_cons, dotL, ih, sumL_cons]

/-- **an accepted certificate proves completeness of the front**: every c-representation of `D` lies componentwise
above some member of `front` -/
theorem C17_front_cert_sound (Ω : List World) (D : List Cond) (hD : D.Nodup) (front : List (List Nat)) (pool : List FLeaf)
    (h : frontCertCheck Ω D front pool = true) (imp : Cond → Nat) (hrep : IsCRep Ω D imp) :
    ∃ f ∈ front, ∀ j, j < D.length → f.getD j 0 ≤ (D.map imp).getD j 0 := by
  refine Classical.byContradiction fun hno => ?_
  have hcoord : ∀ f ∈ front, ∃ j ∈ List.range D.length, (D.map imp).getD j 0 + 1 ≤ f.getD j 0 := fun f hf =>
    Classical.byContradiction fun hn =>
      hno ⟨f, hf, fun j hj => Nat.le_of_not_lt fun hlt => hn ⟨j, List.mem_range.mpr hj, hlt⟩⟩
  obtain ⟨cs, hcs, hcsfacts⟩ := choices_exists front hcoord
  obtain ⟨ch, hch, hchfacts⟩ := crep_rows Ω D hD imp ((C05_base_iff Ω D hD imp).mp hrep)
  unfold frontCertCheck at h
  simp only [List.all_eq_true, List.any_eq_true] at h
  obtain ⟨lf, _, hok⟩ := h ch hch cs hcs
  refine linRefute_sound (D.map imp) _ (List.forall_mem_append.mpr
    ⟨forall_rows fun x y hx hy => ?_, List.forall_mem_map.mpr fun z hz => ?_⟩) hok
  · show dotL (indV D x.1.2) _ + 1 ≤ dotL (addV (indV D [x.1.1.i]) (indV D y.1)) _ + 0
    rw [dotL_addV, indV, indV, indV, dotL_map, dotL_map, dotL_map]
    exact hchfacts x.1 hx y.1 hy
  · show dotL (unitV z.1.2) _ + 1 ≤ dotL [] _ + z.1.1.getD z.1.2 0
    rw [dotL_unitV]
    exact (Nat.zero_add _).symm ▸ hcsfacts z.1 (List.of_mem_zip hz).1

/-- positional form: every checked c-representation vector `η` dominates a member of the front -/
theorem C17_front_cert_vectors (Ω : List World) (D : List Cond) (hD : D.Nodup) (front : List (List Nat)) (pool : List FLeaf)
    (h : frontCertCheck Ω D front pool = true) (η : List Nat) (hη : isCRepB Ω D η = true) :
    ∃ f ∈ front, ∀ j, j < D.length → f.getD j 0 ≤ (D.map (impOf D η)).getD j 0 :=
  C17_front_cert_sound Ω D hD front pool h (impOf D η) (isCRep_of_isCRepB hη)

/-- the c-inference certificate in terms of the executable counter-model test of the harness: once a certificate for `q` is accepted,
**no** impact vector passes "is a c-representation and does not accept `q`" -/
theorem C05_cert_no_counter_model (Ω : List World) (D : List Cond) (hD : D.Nodup) (q : Cond) (pool : List CLeaf)
    (h : cCertCheck Ω D q pool = true) (hf : ∃ w ∈ Ω, q.fal w = true) (η : List Nat) (hη : isCRepB Ω D η = true) :
    acceptCode Ω (kappaC D (impOf D η)) q = true :=
  (C18_accept_iff Ω _ q).mpr
    (C17_cinf_accepted Ω D q (impOf D η) (C05_cert_sound Ω D hD q pool h) hf (isCRep_of_isCRepB hη))

/-! non-vacuity: the penguin base has the single Pareto-minimal vector (1,2,2) -/
section Example
def exFrontPool : List FLeaf :=
  [⟨[[0], [0], [0]], [1]⟩, ⟨[[1], [0], [0]], [1]⟩, ⟨[[0], [1], [1]], [1]⟩, ⟨[[1], [0], [1]], [1]⟩, ⟨[[1], [1], [0]], [1]⟩]
theorem exFront_accepted : frontCertCheck (allWorlds 3) exCert [[1, 2, 2]] exFrontPool = true := by decide +kernel
example : frontCertCheck (allWorlds 3) exCert [[1, 2, 2]] exFrontPool = true := exFront_accepted
example (imp : Cond → Nat) (h : IsCRep (allWorlds 3) exCert imp) :
    ∃ f ∈ [[1, 2, 2]], ∀ j, j < exCert.length → f.getD j 0 ≤ (exCert.map imp).getD j 0 :=
  C17_front_cert_sound _ _ (by decide) _ exFrontPool exFront_accepted imp h
example : frontCertCheck (allWorlds 3) exCert [[1, 2, 3]] exFrontPool = false := by decide +kernel
end Example

end InfOCF
