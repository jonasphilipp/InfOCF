import InfOCFModel.Rank
/-!
# C18  Ranking-function operations obey their defining laws for every ranking

`formula_rank` and (key by key) `marginalize` are the same loop, a running minimum over the worlds that
pass a test (`foldl_minStep`); their laws are read off `List.min?` of the filtered list. Acceptance compares
two such minima (`accepts_iff_optLt` in `Ocf.lean`).
-/
namespace InfOCF

def minStep (κ : World → Nat) (p : World → Bool) (acc : Option Nat) (w : World) : Option Nat :=
  if p w then some (match acc with | none => κ w | some m => min m (κ w)) else acc

theorem foldl_minStep (κ : World → Nat) (p : World → Bool) (l : List World) (acc : Option Nat) :
    l.foldl (minStep κ p) acc = (acc.toList ++ (l.filter p).map κ).min? := by
  induction l generalizing acc with
  | nil => cases acc <;> rfl
  | cons x t ih =>
    rw [List.foldl_cons, ih, List.filter_cons]
    unfold minStep
    -- `min?` of a cons is `foldl min`, so both sides unfold to the same term
    cases p x <;> cases acc <;> rfl

theorem min?_filter_map (κ : World → Nat) (p : World → Bool) (Ω : List World) :
    (((Ω.filter p).map κ).min? = none ↔ ∀ w ∈ Ω, p w = false) ∧
    ∀ m, ((Ω.filter p).map κ).min? = some m ↔
      (∃ w ∈ Ω, p w = true ∧ κ w = m) ∧ ∀ w ∈ Ω, p w = true → m ≤ κ w := by
  refine ⟨by simp only [List.min?_eq_none_iff, List.map_eq_nil_iff, List.filter_eq_nil_iff, Bool.not_eq_true], fun m => ?_⟩
  rw [List.min?_eq_some_iff, List.forall_mem_map]
  simp only [List.mem_map, List.mem_filter, and_assoc, and_imp]

theorem ite_lt_eq_min (a m : Nat) : (if a < m then some a else some m) = some (min m a) := by
  by_cases h : a < m
  · rw [if_pos h, Nat.min_eq_right (Nat.le_of_lt h)]
  · rw [if_neg h, Nat.min_eq_left (Nat.le_of_not_gt h)]

theorem formulaRank_eq_min? (Ω : List World) (κ : World → Nat) (φ : Fm) :
    formulaRank Ω κ φ = ((Ω.filter φ.eval).map κ).min? := by
  refine Eq.trans ?_ (foldl_minStep κ _ Ω none)
  unfold formulaRank minStep
  congr; funext acc w
  -- the code writes `min` as a comparison
  cases acc with
  | none => rfl
  | some m =>
    show (if _ then (if κ w < m then some (κ w) else some m) else _) = _
    rw [ite_lt_eq_min]

/-- **the rank of a formula is undefined exactly when it has no model** -/
theorem C18_formulaRank_none (Ω : List World) (κ : World → Nat) (φ : Fm) :
    formulaRank Ω κ φ = none ↔ ∀ w ∈ Ω, φ.eval w = false := by
  rw [formulaRank_eq_min?]; exact (min?_filter_map κ φ.eval Ω).1

/-- **… and otherwise it is the least rank of its models** -/
theorem C18_formulaRank_min (Ω : List World) (κ : World → Nat) (φ : Fm) (m : Nat) :
    formulaRank Ω κ φ = some m ↔
      (∃ w ∈ Ω, φ.eval w = true ∧ κ w = m) ∧ ∀ w ∈ Ω, φ.eval w = true → m ≤ κ w := by
  rw [formulaRank_eq_min?]; exact (min?_filter_map κ φ.eval Ω).2 m

/-- **acceptance**: accepted exactly when the rank of `A∧B` is defined and smaller than that of `A∧¬B`
(or the latter is undefined) — i.e. some verifying world lies strictly below every falsifying one -/
theorem C18_accept_iff (Ω : List World) (κ : World → Nat) (c : Cond) :
    acceptCode Ω κ c = true ↔ Accepts Ω κ c := by
  rw [accepts_iff_optLt lt_of_le_lt_le Ω κ c κ κ fun _ _ _ _ => Iff.rfl]
  show _ ↔ optLt (· < ·) ((Ω.filter (Fm.and c.ante c.cons).eval).map κ).min?
    ((Ω.filter (Fm.and c.ante (.neg c.cons)).eval).map κ).min?
  rw [← formulaRank_eq_min?, ← formulaRank_eq_min?]
  unfold acceptCode
  cases formulaRank Ω κ (.and c.ante c.cons) <;> cases formulaRank Ω κ (.and c.ante (.neg c.cons)) <;> simp [optLt]

def mlookup (acc : List (World × Nat)) (v : World) : Option Nat := (acc.find? (·.1 == v)).map (·.2)

theorem mem_of_mlookup {acc : List (World × Nat)} {v : World} {r : Nat} (h : mlookup acc v = some r) :
    (v, r) ∈ acc := by
  obtain ⟨p, hf, rfl⟩ := Option.map_eq_some_iff.mp h
  obtain ⟨rfl, hm⟩ := find?_key hf
  exact hm

/-- the step of the fold in `marginalize` (Rank.lean), word for word, so that `marginalize` unfolds to a fold of it -/
def margStep (κ : World → Nat) (drop : List Nat) (acc : List (World × Nat)) (w : World) : List (World × Nat) :=
  let v := project drop w
  match acc.find? (·.1 == v) with
  | none => acc ++ [(v, κ w)]
  | some _ => acc.map fun p => if p.1 == v then (p.1, min p.2 (κ w)) else p

/-- seen from one key `v`, the dictionary update of `marginalize` is the running minimum of `formula_rank` -/
theorem mlookup_margStep (κ : World → Nat) (drop : List Nat) (v : World) (acc : List (World × Nat)) (w : World) :
    minStep κ (project drop · == v) (mlookup acc v) w = mlookup (margStep κ drop acc w) v := by
  unfold margStep minStep
  cases hf : acc.find? (·.1 == project drop w) with
  | none =>
    -- a new key is appended; a lookup finds it there iff the key is `v`
    simp only [hf]
    by_cases hv : project drop w = v
    · subst hv; simp only [BEq.rfl, ↓reduceIte, mlookup, hf, Option.map_none, List.find?_append, List.find?_cons_of_pos,
        Option.or_some, Option.getD_none, Option.map_some]
    · simp only [beq_iff_eq, hv, ↓reduceIte, mlookup, List.find?_append, not_false_eq_true, List.find?_cons_of_neg,
        List.find?_nil, Option.or_none]
  | some p0 =>
    -- a known key: the update keeps every key and changes the value under this one only
    have hupd : (fun p : World × Nat => if p.1 == project drop w then (p.1, min p.2 (κ w)) else p) =
        fun p => (p.1, if p.1 == project drop w then min p.2 (κ w) else p.2) := by
      funext p; split <;> rfl
    simp only [hf, hupd, mlookup, List.find?_map, Option.map_map, Function.comp_def]
    by_cases hv : project drop w = v
    · subst hv
      simp only [beq_self_eq_true, ↓reduceIte, hf, Option.map_some, (find?_key hf).1]
    · cases hfv : acc.find? (·.1 == v) with
      | none => simp only [beq_iff_eq, hv, ↓reduceIte, Option.map_none]
      | some p1 =>
        simp only [beq_iff_eq, hv, ↓reduceIte, Option.map_some, (find?_key hfv).1, Ne.symm hv]

theorem mlookup_marginalize (Ω : List World) (κ : World → Nat) (drop : List Nat) (v : World) :
    mlookup (marginalize Ω κ drop) v = ((Ω.filter (project drop · == v)).map κ).min? :=
  (List.foldl_hom (mlookup · v) (mlookup_margStep κ drop v)).symm.trans (foldl_minStep κ _ Ω none)

/-- **marginalisation**: each remaining world gets the least rank of its extensions -/
theorem C18_marginalize_spec (Ω : List World) (κ : World → Nat) (drop : List Nat) (v : World) :
    (mlookup (marginalize Ω κ drop) v = none ↔ ∀ w ∈ Ω, project drop w ≠ v) ∧
    ∀ m, mlookup (marginalize Ω κ drop) v = some m ↔
      (∃ w ∈ Ω, project drop w = v ∧ κ w = m) ∧ ∀ w ∈ Ω, project drop w = v → m ≤ κ w := by
  rw [mlookup_marginalize]
  simpa only [beq_iff_eq, beq_eq_false_iff_ne] using min?_filter_map κ (project drop · == v) Ω

theorem marginal_attained {Ω : List World} {κ : World → Nat} {drop : List Nat} {v : World} {r : Nat}
    (h : mlookup (marginalize Ω κ drop) v = some r) : ∃ w ∈ Ω, project drop w = v ∧ κ w = r :=
  (((C18_marginalize_spec Ω κ drop v).2 r).mp h).1

theorem marginal_le {Ω : List World} (κ : World → Nat) (drop : List Nat) {w : World} (hw : w ∈ Ω) :
    ∃ r, mlookup (marginalize Ω κ drop) (project drop w) = some r ∧ r ≤ κ w := by
  cases hl : mlookup (marginalize Ω κ drop) (project drop w) with
  | none => exact absurd rfl ((C18_marginalize_spec Ω κ drop _).1.mp hl w hw)
  | some r => exact ⟨r, rfl, (((C18_marginalize_spec Ω κ drop _).2 r).mp hl).2 w hw rfl⟩

theorem marginal_keys (Ω : List World) (κ : World → Nat) (drop : List Nat) (v : World) :
    (∃ r, (v, r) ∈ marginalize Ω κ drop ∧ mlookup (marginalize Ω κ drop) v = some r) ↔ ∃ w ∈ Ω, project drop w = v := by
  constructor
  · rintro ⟨r, _, hr⟩
    obtain ⟨w, hw, hp, _⟩ := marginal_attained hr
    exact ⟨w, hw, hp⟩
  · rintro ⟨w, hw, rfl⟩
    obtain ⟨r, hr, _⟩ := marginal_le κ drop hw
    exact ⟨r, mem_of_mlookup hr, hr⟩

/-- **ranks of formulas over the remaining atoms are preserved**: for any property `p` of marginal worlds,
`m` is the least marginal rank of a `p`-world iff it is the least rank of a world whose projection has `p` -/
theorem C18_marginal_formula_rank (Ω : List World) (κ : World → Nat) (drop : List Nat) (p : World → Bool) (m : Nat) :
    ((∃ v, p v = true ∧ mlookup (marginalize Ω κ drop) v = some m) ∧
      ∀ v r, p v = true → mlookup (marginalize Ω κ drop) v = some r → m ≤ r) ↔
    ((∃ w ∈ Ω, p (project drop w) = true ∧ κ w = m) ∧ ∀ w ∈ Ω, p (project drop w) = true → m ≤ κ w) := by
  constructor
  · rintro ⟨⟨v, hpv, hv⟩, hall⟩
    obtain ⟨w, hw, rfl, hκ⟩ := marginal_attained hv
    refine ⟨⟨w, hw, hpv, hκ⟩, fun w' hw' hp' => ?_⟩
    obtain ⟨r, hr, hle⟩ := marginal_le κ drop hw'
    exact Nat.le_trans (hall _ r hp' hr) hle
  · rintro ⟨⟨w, hw, hpw, rfl⟩, hall⟩
    obtain ⟨r, hr, hle⟩ := marginal_le κ drop hw
    obtain ⟨w2, hw2, hp2, rfl⟩ := marginal_attained hr
    have : κ w2 = κ w := Nat.le_antisymm hle (hall w2 hw2 (hp2 ▸ hpw))
    refine ⟨⟨_, hpw, this ▸ hr⟩, fun v r' hpv hv => ?_⟩
    obtain ⟨w3, hw3, rfl, rfl⟩ := marginal_attained hv
    exact hall w3 hw3 hpv

/-- **conditionalisation returns exactly the satisfying worlds with their ranks** -/
theorem C18_conditionalize_spec (Ω : List World) (κ : World → Nat) (φ : Fm) (w : World) (r : Nat) :
    (w, r) ∈ conditionalize Ω κ φ ↔ w ∈ Ω ∧ φ.eval w = true ∧ r = κ w := by
  simp only [conditionalize, List.mem_map, List.mem_filter, Prod.mk.injEq]
  constructor
  · rintro ⟨w', ⟨hw', he⟩, rfl, rfl⟩; exact ⟨hw', he, rfl⟩
  · rintro ⟨hw, he, rfl⟩; exact ⟨w, ⟨hw, he⟩, rfl, rfl⟩

def SSorted : List Nat → Prop
  | [] => True
  | a :: rest => (∀ b ∈ rest, a < b) ∧ SSorted rest

theorem ssorted_iff_pairwise (l : List Nat) : SSorted l ↔ l.Pairwise (· < ·) := by
  induction l with
  | nil => exact ⟨fun _ => .nil, fun _ => trivial⟩
  | cons a t ih => rw [SSorted, List.pairwise_cons, ih]

theorem mem_insertNat (a : Nat) (l : List Nat) (x : Nat) : x ∈ insertNat a l ↔ x = a ∨ x ∈ l := by
  fun_induction insertNat a l with
  | case1 => exact List.mem_cons
  | case2 => exact List.mem_cons
  | case3 b rest _ hab => rw [eq_of_beq hab, List.mem_cons, ← or_assoc, or_self]
  | case4 b rest _ _ ih => rw [List.mem_cons, ih, List.mem_cons, or_left_comm]

theorem insertNat_pairwise (a : Nat) (l : List Nat) (h : l.Pairwise (· < ·)) : (insertNat a l).Pairwise (· < ·) := by
  fun_induction insertNat a l with
  | case1 => exact List.pairwise_singleton _ a
  | case2 b rest hlt =>
    exact List.pairwise_cons.mpr
      ⟨List.forall_mem_cons.mpr ⟨hlt, fun c hc => Nat.lt_trans hlt (List.rel_of_pairwise_cons h hc)⟩, h⟩
  | case3 => exact h
  | case4 b rest hnlt hne ih =>
    obtain ⟨hb, hrest⟩ := List.pairwise_cons.mp h
    refine List.pairwise_cons.mpr ⟨fun c hc => ?_, ih hrest⟩
    rcases (mem_insertNat a rest c).mp hc with rfl | hc'
    · exact Nat.lt_of_le_of_ne (Nat.le_of_not_lt hnlt) fun e => hne (beq_iff_eq.mpr e.symm)
    · exact hb c hc'

theorem distinctRanks_pairwise (Ω : List World) (κ : World → Nat) : (distinctRanks Ω κ).Pairwise (· < ·) :=
  List.foldlRecOn Ω _ .nil fun acc h w _ => insertNat_pairwise (κ w) acc h

theorem mem_distinctFold (κ : World → Nat) (l : List World) (acc : List Nat) (x : Nat) :
    x ∈ l.foldl (fun acc w => insertNat (κ w) acc) acc ↔ x ∈ acc ∨ ∃ w ∈ l, κ w = x := by
  induction l generalizing acc with
  | nil => simp
  | cons a t ih =>
    rw [List.foldl_cons, ih, mem_insertNat]
    simp only [List.mem_cons, exists_eq_or_imp]
    rw [or_assoc, or_left_comm, eq_comm]

theorem mem_distinctRanks (Ω : List World) (κ : World → Nat) (x : Nat) :
    x ∈ distinctRanks Ω κ ↔ ∃ w ∈ Ω, κ w = x :=
  (mem_distinctFold κ Ω [] x).trans (or_iff_right List.not_mem_nil)

/-- strictly increasing assignments reflect order and equality; stated for one pair of indices and their values, so
that it applies to a function (`f i`) and to the entries of a list (`l[i]?`) alike -/
theorem mono_reflect {i j a b : Nat} (h1 : i < j → a < b) (h2 : j < i → b < a) (h3 : i = j → a = b) :
    (a < b ↔ i < j) ∧ (a = b ↔ i = j) := by
  rcases Nat.lt_trichotomy i j with h | h | h
  · exact ⟨iff_of_true (h1 h) h, iff_of_false (Nat.ne_of_lt (h1 h)) (Nat.ne_of_lt h)⟩
  · subst h; obtain rfl := h3 rfl
    exact ⟨iff_of_false (Nat.lt_irrefl _) (Nat.lt_irrefl _), iff_of_true rfl rfl⟩
  · exact ⟨iff_of_false (Nat.lt_asymm (h2 h)) (Nat.lt_asymm h), iff_of_false (Nat.ne_of_gt (h2 h)) (Nat.ne_of_gt h)⟩

theorem pairwise_reflect {l : List Nat} (h : l.Pairwise (· < ·)) {i j a b : Nat}
    (hi : l[i]? = some a) (hj : l[j]? = some b) : (a < b ↔ i < j) ∧ (a = b ↔ i = j) := by
  obtain ⟨hi', rfl⟩ := List.getElem?_eq_some_iff.mp hi
  obtain ⟨hj', rfl⟩ := List.getElem?_eq_some_iff.mp hj
  have mono := List.pairwise_iff_getElem.mp h
  exact mono_reflect (mono i j hi' hj') (mono j i hj' hi') fun e => by subst e; rfl

theorem ssorted_get_inj (l : List Nat) (h : SSorted l) (i j a : Nat) (hi : l[i]? = some a) (hj : l[j]? = some a) : i = j :=
  (pairwise_reflect ((ssorted_iff_pairwise l).mp h) hi hj).2.mp rfl

/-- **`ranks2tpo`**: layer `i` consists of exactly the worlds whose rank is the `i`-th distinct rank (the
distinct ranks are strictly ascending and exactly the ranks taken: `distinctRanks_pairwise`, `mem_distinctRanks`) -/
theorem C18_tpo_layers (Ω : List World) (κ : World → Nat) (i : Nat) (L : List World) :
    (ranks2tpo Ω κ)[i]? = some L ↔ ∃ d, (distinctRanks Ω κ)[i]? = some d ∧ L = Ω.filter fun w => κ w == d := by
  rw [ranks2tpo, List.getElem?_map, Option.map_eq_some_iff]
  exact exists_congr fun d => and_congr_right fun _ => eq_comm

theorem mem_tpo2ranks (Ω : List World) (κ : World → Nat) (f : Nat → Nat) (w : World) (r : Nat) :
    (w, r) ∈ tpo2ranks (ranks2tpo Ω κ) f ↔ w ∈ Ω ∧ ∃ i, (distinctRanks Ω κ)[i]? = some (κ w) ∧ r = f i := by
  rw [tpo2ranks, ranks2tpo, List.zipIdx_map, List.flatMap_map]
  simp only [List.mem_flatMap, List.mem_map, List.mem_filter, Prod.mk.injEq, Prod.exists,
    List.mk_mem_zipIdx_iff_getElem?, Prod.map, id, beq_iff_eq]
  constructor
  · rintro ⟨d, i, hd, w', ⟨hw, rfl⟩, rfl, rfl⟩
    exact ⟨hw, i, hd, rfl⟩
  · rintro ⟨hw, i, hd, rfl⟩
    exact ⟨_, i, hd, w, ⟨hw, rfl⟩, rfl, rfl⟩

/-- **round trip, exact**: numbering the layers by their ranks gives back exactly the ranks -/
theorem C18_tpo_roundtrip_exact (Ω : List World) (κ : World → Nat) (f : Nat → Nat)
    (hf : ∀ i d, (distinctRanks Ω κ)[i]? = some d → f i = d) (w : World) (r : Nat) :
    (w, r) ∈ tpo2ranks (ranks2tpo Ω κ) f ↔ w ∈ Ω ∧ r = κ w := by
  rw [mem_tpo2ranks]
  refine and_congr_right fun hw => ⟨?_, ?_⟩
  · rintro ⟨i, hd, rfl⟩
    exact hf i _ hd
  · rintro rfl
    obtain ⟨i, hi⟩ := List.mem_iff_getElem?.mp ((mem_distinctRanks Ω κ (κ w)).mpr ⟨w, hw, rfl⟩)
    exact ⟨i, hi, (hf i _ hi).symm⟩

/-- **round trip, order**: for any strictly increasing layer numbering the order of worlds is preserved -/
theorem C18_tpo_roundtrip_order (Ω : List World) (κ : World → Nat) (f : Nat → Nat)
    (hf : ∀ i j, i < j → f i < f j) (w1 w2 : World) (r1 r2 : Nat)
    (h1 : (w1, r1) ∈ tpo2ranks (ranks2tpo Ω κ) f) (h2 : (w2, r2) ∈ tpo2ranks (ranks2tpo Ω κ) f) :
    (r1 < r2 ↔ κ w1 < κ w2) ∧ (r1 = r2 ↔ κ w1 = κ w2) := by
  obtain ⟨_, i, hd1, rfl⟩ := (mem_tpo2ranks Ω κ f w1 r1).mp h1
  obtain ⟨_, j, hd2, rfl⟩ := (mem_tpo2ranks Ω κ f w2 r2).mp h2
  -- both `f` and the list of distinct ranks are strictly increasing in the layer index
  have hf' := mono_reflect (hf i j) (hf j i) (congrArg f)
  have hd := pairwise_reflect (distinctRanks_pairwise Ω κ) hd1 hd2
  exact ⟨hf'.1.trans hd.1.symm, hf'.2.trans hd.2.symm⟩

/-! non-vacuity: an asymmetric ranking over two atoms -/
def exκ : World → Nat := fun w => match w with
  | [false, false] => 3 | [true, false] => 1 | [false, true] => 2 | _ => 0
example : formulaRank (allWorlds 2) exκ (.or (.atom 0) (.atom 1)) = some 0 := by decide +kernel
example : formulaRank (allWorlds 2) exκ (.and (.atom 0) (.neg (.atom 0))) = none := by decide +kernel
example : marginalize (allWorlds 2) exκ [0] = [([false], 1), ([true], 0)] := by decide +kernel
example : ranks2tpo (allWorlds 2) exκ = [[[true, true]], [[true, false]], [[false, true]], [[false, false]]] := by decide +kernel
end InfOCF
