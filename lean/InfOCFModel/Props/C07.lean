import InfOCFModel.Props.C02
import InfOCFModel.Props.C03
import InfOCFModel.Props.C04
import InfOCFModel.Props.C06
/-!
# C07  Extended semantics: exact and total on every weakly consistent base

With `weakly = true` the partition is `fin ++ [inf]`; worlds falsifying a member of `inf` are
infeasible. Each operator's answer is its strict definition restricted to the feasible worlds
`Ωf` and the finite layers `fin` — which already contains the property's edge cases:
no feasible `A∧¬B`-world ⇒ True; a feasible `A∧¬B`-world but no feasible `A∧B`-world ⇒ False.
-/
namespace InfOCF

theorem bodyZ_ext_eq (fin : List (List Cond)) (Ωf : List World) (q : Cond) :
    bodyZ true fin Ωf q = specZ Ωf fin q := bodyZ_eq (Or.inl rfl)

theorem bodyW_ext_eq (fin : List (List Cond)) (Ωf : List World) (q : Cond) :
    bodyW true fin Ωf q = specW' fin Ωf q := bodyW_eq (Or.inl rfl)

/-- **C07 (System Z)** -/
theorem C07_Z (Ω : List World) (D : List Cond) (q : Cond) (P : List (List Cond))
    (hD : D ≠ []) (hP : partE Ω D = some P) :
    ansZ true Ω D q = .val (specZ (feasible Ω (P.getLastD [])) P.dropLast q) :=
  ansZ_eq (weakly := true) hD hP q

/-- **C07 (System W, both back-ends)** -/
theorem C07_W (Ω : List World) (D : List Cond) (q : Cond) (P : List (List Cond))
    (hD : D ≠ []) (hP : partE Ω D = some P) :
    ansW true Ω D q = .val (specW' P.dropLast (feasible Ω (P.getLastD [])) q) :=
  ansW_eq (weakly := true) hD hP q

/-- **C07 (lexicographic inference, both back-ends)** -/
theorem C07_Lex (Ω : List World) (D : List Cond) (q : Cond) (P : List (List Cond))
    (hD : D ≠ []) (hP : partE Ω D = some P) :
    ansLex true Ω D q = .val (specLex' P.dropLast (feasible Ω (P.getLastD [])) q) :=
  ansLex_eq (weakly := true) hD hP q

/-- the property's edge cases, stated for any preferential comparison over the feasible worlds -/
theorem C07_edges (Ωf : List World) (lt : World → World → Bool) (q : Cond) :
    ((∀ w ∈ Ωf, q.fal w = false) → prefEnt Ωf lt q = true) ∧
    ((∃ w ∈ Ωf, q.fal w = true) → (∀ w ∈ Ωf, q.ver w = false) → prefEnt Ωf lt q = false) := by
  refine ⟨prefEnt_of_no_fal lt, ?_⟩
  rintro ⟨w', hw', hf'⟩ hv
  refine Bool.eq_false_iff.mpr fun hp => ?_
  obtain ⟨w, hw, hver, _⟩ := prefEnt_iff.mp hp w' hw' hf'
  exact absurd hver (Bool.eq_false_iff.mp (hv w hw))

/-- **totality**: on every non-empty weakly consistent base each operator model returns a Boolean -/
theorem C07_total (Ω : List World) (D : List Cond) (q : Cond) (hD : D ≠ []) (hP : (partE Ω D).isSome) :
    (∃ b, ansP true Ω D q = .val b) ∧ (∃ b, ansZ true Ω D q = .val b) ∧
    (∃ b, ansW true Ω D q = .val b) ∧ (∃ b, ansLex true Ω D q = .val b) := by
  have h := fun body => (C06_refusal true Ω D q body).2.2 hD hP
  exact ⟨h _, h _, h _, h _⟩

/-- **on strongly consistent bases extended = strict** (System Z, System W, lexicographic) -/
theorem C07_strict_coincide (Ω : List World) (D : List Cond) (q : Cond) (P : List (List Cond))
    (hD : D ≠ []) (hP : partS Ω D = some P) :
    ansZ true Ω D q = ansZ false Ω D q ∧ ansW true Ω D q = ansW false Ω D q ∧
    ansLex true Ω D q = ansLex false Ω D q := by
  have hE : partFor true Ω D = some (P ++ [[]]) := (C06_ext_strict Ω D P).mp hP
  have hfin : finLayers true (P ++ [[]]) = P := List.dropLast_concat
  have hinf : infLayer true (P ++ [[]]) = [] := List.getLastD_concat
  rw [ansZ_eq hD hE, ansW_eq hD hE, ansLex_eq hD hE, hfin, hinf, feasible_nil,
    C02_main Ω D q P hD hP, C03_main Ω D q P hD hP, C04_main Ω D q P hD hP]
  exact ⟨rfl, rfl, rfl⟩

/-! ### extended p-entailment

The property's case distinction is `specPExt`; `C07_P` (`C07P.lean`) proves it from `partE Ω D = some (fin ++ [inf])` alone,
without `D ≠ []` and `trivialQ Ω q = false`. The driver evaluates model and specification on every request and compares them. -/
def C07_P_statement : Prop :=
  ∀ (Ω : List World) (D : List Cond) (q : Cond), D ≠ [] → (partE Ω D).isSome →
    trivialQ Ω q = false → some (algPExt Ω D q) = specPExt Ω D q

/-! non-vacuity: a base with a non-empty infinity layer and a finite layer -/
section Example
def exC07 : List Cond := [⟨.atom 1, .atom 0, 1⟩, ⟨.bot, .and (.atom 0) (.atom 2), 2⟩]
example : ∃ P, partE (allWorlds 3) exC07 = some P ∧ P.length = 2 ∧ lastSize P = 1 := by decide +kernel
example : ansZ true (allWorlds 3) exC07 ⟨.neg (.atom 2), .atom 0, 0⟩ = .val true := by decide +kernel
example : ansW true (allWorlds 3) exC07 ⟨.atom 2, .atom 1, 0⟩ = .val false := by decide +kernel
example : partS (allWorlds 3) exC07 = none := by decide +kernel
end Example

end InfOCF
