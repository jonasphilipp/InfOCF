import InfOCFModel.Props.C07
import InfOCFModel.Props.C07P
import InfOCFModel.Incl
import InfOCFModel.CSpec
/-!
# C08  Operators are ordered by inclusion: p ≤ Z ≤ W ≤ lex and p ≤ c ≤ W
These are statements about the *models of the operators as users call them* (`ans*`), in both modes,
for bases of any size. p ≤ Z instantiates the ranking-model form of p-entailment (`C01_prefEnt`, in extended
mode `C07_P_models`) with the Z-ranking; c ≤ W comes last.
-/
namespace InfOCF

/-- **Z ≤ W**, both modes, both back-ends -/
theorem C08_Z_le_W (weakly : Bool) (Ω : List World) (D : List Cond) (q : Cond)
    (h : ansZ weakly Ω D q = .val true) : ansW weakly Ω D q = .val true := by
  obtain ⟨hD, P, hP⟩ := ans_val_cases h
  rw [ansZ_eq hD hP, Out.val.injEq] at h
  rw [ansW_eq hD hP, specW', specZ_le_specW _ _ q h]

/-- **W ≤ lex**, both modes, both back-ends -/
theorem C08_W_le_Lex (weakly : Bool) (Ω : List World) (D : List Cond) (q : Cond)
    (h : ansW weakly Ω D q = .val true) : ansLex weakly Ω D q = .val true := by
  obtain ⟨hD, P, hP⟩ := ans_val_cases h
  rw [ansW_eq hD hP, Out.val.injEq] at h
  rw [ansLex_eq hD hP, specLex', specW_le_specLex _ _ _ h]

/-- **p ≤ Z** (strict mode) -/
theorem C08_P_le_Z (Ω : List World) (D : List Cond) (q : Cond)
    (h : ansP false Ω D q = .val true) : ansZ false Ω D q = .val true := by
  obtain ⟨hD, P, hP⟩ := ans_val_cases h
  obtain ⟨hpart, hmem⟩ := tolPart_sound Ω D.length D P hP
  rw [C02_main Ω D q P hD hP]
  exact congrArg Out.val ((C01_prefEnt Ω D q P hD hP).mp h (zrk P) fun c hc => zrk_models Ω P hpart c ((hmem c).mpr hc))

/-- **p ≤ Z, extended mode**: the Z-ranking of the finite layers is one of the ranking models -/
theorem C08_P_le_Z_ext (Ω : List World) (D : List Cond) (q : Cond)
    (h : ansP true Ω D q = .val true) : ansZ true Ω D q = .val true := by
  obtain ⟨hD, P, hP⟩ := ans_val_cases h
  obtain ⟨fin, inf, rfl, hrun, _, _⟩ := (C06_ext Ω D P).mp hP
  rw [C07_Z Ω D q _ hD hP, List.getLastD_concat, List.dropLast_concat]
  congr 1
  exact (C07_P_models Ω D q fin inf hD hP).mp h _ (zrk_models _ fin (GreedyRun_isTolPart hrun))

/-- **p ≤ Z ≤ W ≤ lex**, both modes -/
theorem C08_P_le_all (weakly : Bool) (Ω : List World) (D : List Cond) (q : Cond)
    (h : ansP weakly Ω D q = .val true) :
    ansZ weakly Ω D q = .val true ∧ ansW weakly Ω D q = .val true ∧ ansLex weakly Ω D q = .val true := by
  have hz : ansZ weakly Ω D q = .val true := by
    cases weakly
    · exact C08_P_le_Z Ω D q h
    · exact C08_P_le_Z_ext Ω D q h
  have hw := C08_Z_le_W weakly Ω D q hz
  exact ⟨hz, hw, C08_W_le_Lex weakly Ω D q hw⟩

/-- skeptical c-inference in the form of the other operators: every c-representation's rank order preferentially
entails the query (for an unsatisfiable antecedent both sides hold) -/
theorem specC_iff_prefEnt (Ω : List World) (D : List Cond) (q : Cond) :
    specC Ω D q ↔ ∀ imp, IsCRep Ω D imp → prefEnt Ω (fun w w' => kappaC D imp w < kappaC D imp w') q = true := by
  constructor
  · rintro (hno | hall) imp himp
    · exact prefEnt_of_no_fal _ hno
    · exact prefEnt_of_accepts (hall imp himp)
  · intro h
    by_cases hA : ∃ w ∈ Ω, q.ante.eval w = true
    · exact Or.inr fun imp himp => (accepts_iff_prefEnt Ω _ q hA).mpr (h imp himp)
    · exact Or.inl fun w hw => Bool.eq_false_iff.mpr fun hf => hA ⟨w, hw, Cond.ante_of_fal hf⟩

/-- **p ≤ c** (specification level): every c-representation is a ranking model -/
theorem C08_P_le_C (Ω : List World) (D : List Cond) (q : Cond)
    (h : ∀ κ : World → Nat, Models Ω κ D → Accepts Ω κ q) : specC Ω D q :=
  Or.inr fun _ himp => h _ himp

/-- the full statement of **c ≤ W** -/
def C08_c_le_W_statement : Prop :=
  ∀ (Ω : List World) (D : List Cond) (q : Cond) (P : List (List Cond)),
    D ≠ [] → partS Ω D = some P → specC Ω D q →
    specW P.reverse (Ω.filter q.ver) (Ω.filter q.fal) = true

/-- c ≤ W, the part about the explicit ranking `kapW w'` (CW.lean) of a falsifying world `w'` that no verifying world
W-precedes: it does not accept the query and accepts every conditional of every layer. That it so accepts a base with a
tolerance partition is `kapW_models`, that it is the ranking of a c-representation `kapW_eq_cost`; `C08_c_le_W` puts
them together. -/
theorem C08_chain_partial (Ω : List World) (q : Cond) (w' : World) (hw' : w' ∈ Ω) (hf : q.fal w' = true)
    (T : List (List Cond))
    (hnone : ∀ w ∈ Ω, q.ver w = true → wless T w w' = false) :
    ¬ Accepts Ω (kapW w' T) q ∧
    ∀ up L lower c, T = up ++ L :: lower → c ∈ L → Tol Ω (L ++ up.flatten) c → Accepts Ω (kapW w' T) c := by
  constructor
  · rintro ⟨w, hw, hv, hlt⟩
    exact Nat.not_lt.mpr (kapW_sep w' T w (hnone w hw hv)) (hlt w' hw' hf)
  · rintro up L lower c rfl hc htol
    exact kapW_accepts Ω w' up L lower c hc htol

/-!
### c-inference ⊆ System W (strict mode)

If System W does not infer `(B|A)`, some falsifying world `w'` has no verifying world `<_w`-below it.
`kapW w'` (CW.lean) is then an explicit ranking that accepts every conditional of the base and ranks
every verifying world at least as high as `w'`. Here it is shown to be the ranking of an impact assignment
(`impT`, which charges a conditional according to its layer), i.e. a c-representation, which closes the chain p ≤ c ≤ W.
-/

/-- impact of a conditional according to the layer it sits in (layers top-first) -/
def impT (w' : World) : List (List Cond) → Cond → Nat
  | [], _ => 0
  | L :: lower, c => if L.contains c then impW w' (totalW w' lower) L c else impT w' lower c

/-- with pairwise distinct conditionals every falsified conditional is charged once, in its own layer -/
theorem kapW_eq_cost (w' : World) : ∀ (T : List (List Cond)), T.flatten.Nodup → ∀ w,
    kapW w' T w = cost (impT w' T) (fset T.flatten w) := by
  intro T
  induction T with
  | nil => intro _ w; rfl
  | cons L lower ih =>
    intro hnd w
    obtain ⟨_, hlow, hdisj⟩ := List.nodup_append.mp (List.flatten_cons ▸ hnd)
    have h1 : ∀ c ∈ fset L w, impT w' (L :: lower) c = impW w' (totalW w' lower) L c := fun c hc =>
      if_pos (List.contains_iff_mem.mpr (mem_fset.mp hc).1)
    have h2 : ∀ c ∈ fset lower.flatten w, impT w' (L :: lower) c = impT w' lower c := fun c hc =>
      if_neg fun hcL => hdisj c (List.contains_iff_mem.mp hcL) c (mem_fset.mp hc).1 rfl
    rw [kapW, ih hlow w, List.flatten_cons, fset_append, cost_append, cost_congr h1, cost_congr h2]
    rfl

/-- **c ≤ W** (strict mode): whatever skeptical c-inference infers, System W infers -/
theorem C08_c_le_W (Ω : List World) (D : List Cond) (q : Cond) (P : List (List Cond))
    (hnd : D.Nodup) (hP : partS Ω D = some P) (hc : specC Ω D q) :
    specW P.reverse (Ω.filter q.ver) (Ω.filter q.fal) = true := by
  refine (C03_spec_form _ Ω q).mpr fun w' hw' hf' => Classical.byContradiction fun hno => ?_
  have hnacc := (C08_chain_partial Ω q w' hw' hf' P.reverse fun w hw hv =>
    Bool.eq_false_iff.mpr fun h => hno ⟨w, hw, hv, h⟩).1
  obtain ⟨hTP, hmem⟩ := tolPart_sound Ω D.length D P hP
  have hperm : P.reverse.flatten.Perm D := (List.reverse_perm P).flatten.trans
    (List.append_nil P.flatten ▸ GreedyRun_perm ((C06_greedy Ω D P).mp hP))
  have hfun : kappaC D (impT w' P.reverse) = kapW w' P.reverse := funext fun w =>
    ((kapW_eq_cost w' P.reverse (hperm.nodup_iff.mpr hnd) w).trans (cost_perm _ (hperm.filter _))).symm
  have hmod : Models Ω (kapW w' P.reverse) P.flatten := List.append_nil P.reverse ▸ kapW_models Ω w' P hTP []
  have hrep : IsCRep Ω D (impT w' P.reverse) := fun c hcD => hfun ▸ hmod c ((hmem c).mpr hcD)
  rcases hc with hno | hall
  · exact ne_true_of_eq_false (hno w' hw') hf'
  · exact hnacc (hfun ▸ hall _ hrep)

/-- the chain **p ≤ c ≤ W** (strict mode): p-entailment as a user calls it ⟹ skeptical c-inference (`specC`) ⟹ System W
as a user calls it -/
theorem C08_chain (Ω : List World) (D : List Cond) (q : Cond) (P : List (List Cond))
    (hD : D ≠ []) (hnd : D.Nodup) (hP : partS Ω D = some P) :
    (ansP false Ω D q = .val true → specC Ω D q) ∧ (specC Ω D q → ansW false Ω D q = .val true) := by
  constructor
  · exact fun hp => (specC_iff_prefEnt Ω D q).mpr fun imp himp => (C01_prefEnt Ω D q P hD hP).mp hp _ himp
  · intro hc
    rw [C03_main Ω D q P hD hP, C08_c_le_W Ω D q P hnd hP hc]

end InfOCF
