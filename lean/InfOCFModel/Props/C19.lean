import InfOCFModel.Props.C17
/-!
# C19  c-revision

`kappaRev κ R γ⁺ γ⁻` is the revised ranking. The compilations of `c_revision.py` list, per revision
conditional `i`, a triple (prior rank, other conditionals verified, other conditionals falsified)
for every world verifying `i` (`vMin`) and falsifying `i` (`fMin`); the constraint is
`γ⁻_i − γ⁺_i > min_v − min_f` with **one** sum per world.
-/
namespace InfOCF

/-- cost of world `w` without the contribution of conditional `i` itself: what one triple of the compilation sums up to -/
def restCost (κ : World → Nat) (R : List Cond) (gp gm : Cond → Nat) (i : Cond) (w : World) : Nat :=
  κ w + cost gp ((others R i).filter (·.ver w)) + cost gm ((others R i).filter (·.fal w))

/-- `kappaRev` with the parameters as functions: `kappaRev κ R gp gm` is `kappaRevF κ R (impOf R gp) (impOf R gm)` by `rfl` -/
def kappaRevF (κ : World → Nat) (R : List Cond) (gp gm : Cond → Nat) (w : World) : Nat :=
  κ w + cost gp (R.filter (·.ver w)) + cost gm (R.filter (·.fal w))

def RevConstraint (Ω : List World) (κ : World → Nat) (R : List Cond) (gp gm : Cond → Nat) (i : Cond) : Prop :=
  match leastNat ((Ω.filter i.ver).map (restCost κ R gp gm i)), leastNat ((Ω.filter i.fal).map (restCost κ R gp gm i)) with
  | none, _ => False
  | some _, none => True
  | some mv, some mf => gp i + mv < gm i + mf

/-- **C19 (constraint = acceptance)**: with one sum per world, `γ⁻_i − γ⁺_i > min_v − min_f` holds iff the
revised ranking accepts conditional `i` -/
theorem C19_constraint_iff (Ω : List World) (κ : World → Nat) (R : List Cond) (hR : R.Nodup) (gp gm : Cond → Nat)
    (i : Cond) (hi : i ∈ R) :
    Accepts Ω (kappaRevF κ R gp gm) i ↔ RevConstraint Ω κ R gp gm i := by
  show _ ↔ optLt (fun v f => gp i + v < gm i + f) _ _
  rw [leastNat_eq_min?, leastNat_eq_min?]
  refine accepts_iff_optLt (fun h1 h2 => lt_of_le_lt_le (Nat.add_le_add_left h1 _) (Nat.add_le_add_left h2 _))
    Ω _ i _ _ fun v w hv hw => ?_
  -- `i` contributes `γ⁺_i` to the verifying and `γ⁻_i` to the falsifying world and nothing else
  have hκv : kappaRevF κ R gp gm v = gp i + restCost κ R gp gm i v := by
    unfold kappaRevF restCost
    rw [cost_filter_split gp (·.ver v) R hR i hi hv, filter_others_of_not R i (·.fal v) (Cond.fal_of_ver hv)]
    omega
  have hκw : kappaRevF κ R gp gm w = gm i + restCost κ R gp gm i w := by
    unfold kappaRevF restCost
    rw [cost_filter_split gm (·.fal w) R hR i hi hw, filter_others_of_not R i (·.ver w) (Cond.not_ver_of_fal hw)]
    omega
  rw [hκv, hκw]

/-- all revision conditionals: the system is satisfied iff the revised ranking accepts every one of them -/
theorem C19_system_iff (Ω : List World) (κ : World → Nat) (R : List Cond) (hR : R.Nodup) (gp gm : Cond → Nat) :
    Models Ω (kappaRevF κ R gp gm) R ↔ ∀ i ∈ R, RevConstraint Ω κ R gp gm i :=
  forall₂_congr (C19_constraint_iff Ω κ R hR gp gm)

/-- entries one world contributes to the minimum in the encoding before the repair (two separate sums per world) -/
def twoSumEntries (κ : World → Nat) (R : List Cond) (gp gm : List Nat) (i : Cond) (w : World) : List Nat :=
  let acc := (others R i).filter (·.ver w)
  let rej := (others R i).filter (·.fal w)
  let e1 := if rej.isEmpty then [] else [κ w + cost (impOf R gm) rej]
  let e2 := if acc.isEmpty then [] else [κ w + cost (impOf R gp) acc]
  if (e1 ++ e2).isEmpty then [κ w] else e1 ++ e2

def twoSumsOk (Ω : List World) (κ : World → Nat) (R : List Cond) (gp gm : List Nat) : Bool :=
  R.all fun i =>
    match leastNat ((Ω.filter i.ver).flatMap (twoSumEntries κ R gp gm i)),
          leastNat ((Ω.filter i.fal).flatMap (twoSumEntries κ R gp gm i)) with
    | some mv, some mf => decide ((impOf R gp i : Int) + mv < impOf R gm i + mf)
    | _, _ => false

/-- concrete witness: for the contradictory pair `(a|b), (¬a|b)` (plus `(b|a)`) the two-sums system accepts
`γ⁺ = (0,0,0), γ⁻ = (1,2,1)`, although no revised ranking can accept both conditionals -/
theorem C19_two_sums_wrong :
    let R : List Cond := [⟨.atom 0, .atom 1, 1⟩, ⟨.neg (.atom 0), .atom 1, 2⟩, ⟨.atom 1, .atom 0, 3⟩]
    let Ω := allWorlds 2
    twoSumsOk Ω (fun _ => 0) R [0, 0, 0] [1, 2, 1] = true ∧ revOkB Ω (fun _ => 0) R [0, 0, 0] [1, 2, 1] = false := by
  decide +kernel

/-- state of `CRevisionModel`: current conditionals by key, and per world the keys classified as accepted / rejected -/
structure RevModel where
  conds : Nat → Option Cond
  acc : World → Nat → Bool
  rej : World → Nat → Bool

def RevModel.empty : RevModel := ⟨fun _ => none, fun _ _ => false, fun _ _ => false⟩

inductive RevOp where
  | add (k : Nat) (c : Cond)
  | remove (k : Nat)

def RevModel.step (m : RevModel) : RevOp → RevModel
  | .add k c =>
    match m.conds k with
    | some _ => m    -- the code raises ValueError for a key already present: no change
    | none =>
      { conds := fun k' => if k' = k then some c else m.conds k'
        acc := fun w k' => if k' = k then c.ver w else m.acc w k'
        rej := fun w k' => if k' = k then c.fal w else m.rej w k' }
  | .remove k =>
    { conds := fun k' => if k' = k then none else m.conds k'
      acc := fun w k' => if k' = k then false else m.acc w k'
      rej := fun w k' => if k' = k then false else m.rej w k' }

/-- classification a fresh compilation computes from the current conditionals -/
def freshAcc (conds : Nat → Option Cond) (w : World) (k : Nat) : Bool :=
  match conds k with | some c => c.ver w | none => false
def freshRej (conds : Nat → Option Cond) (w : World) (k : Nat) : Bool :=
  match conds k with | some c => c.fal w | none => false

def RevModel.Inv (m : RevModel) : Prop :=
  (∀ w k, m.acc w k = freshAcc m.conds w k) ∧ (∀ w k, m.rej w k = freshRej m.conds w k)

/-- both operations overwrite one key, with a conditional or with nothing, and classify that key afresh -/
theorem RevModel.Inv.update {m : RevModel} (h : m.Inv) (k : Nat) (o : Option Cond) :
    RevModel.Inv ⟨fun k' => if k' = k then o else m.conds k',
      fun w k' => if k' = k then freshAcc (fun _ => o) w k else m.acc w k',
      fun w k' => if k' = k then freshRej (fun _ => o) w k else m.rej w k'⟩ := by
  constructor <;> intro w k' <;> by_cases e : k' = k
  · simp [e, freshAcc]
  · simp [e, freshAcc, h.1 w k']
  · simp [e, freshRej]
  · simp [e, freshRej, h.2 w k']

theorem RevModel.step_inv (m : RevModel) (op : RevOp) (h : m.Inv) : (m.step op).Inv := by
  cases op with
  | add k c =>
    simp only [RevModel.step]
    cases m.conds k with
    | some _ => exact h
    | none => exact h.update k (some c)
  | remove k => exact h.update k none

/-- the triple a compilation emits for world `w` and key `k` (over a key universe `keys`): prior rank, other keys
accepted, other keys rejected -/
def tripleOf (κ : World → Nat) (acc rej : World → Nat → Bool) (keys : List Nat) (w : World) (k : Nat) :
    Nat × List Nat × List Nat :=
  (κ w, keys.filter (fun j => j != k && acc w j), keys.filter (fun j => j != k && rej w j))

/-- **C19 (incremental)**: after *any* sequence of additions and removals the per-world classification held by the
model — hence every triple of `to_compilation` — is the one a fresh compilation of the current conditionals computes -/
theorem C19_incremental (ops : List RevOp) (κ : World → Nat) (keys : List Nat) (w : World) (k : Nat) :
    let m := ops.foldl RevModel.step RevModel.empty
    m.Inv ∧ tripleOf κ m.acc m.rej keys w k = tripleOf κ (freshAcc m.conds) (freshRej m.conds) keys w k := by
  have hm : (ops.foldl RevModel.step RevModel.empty).Inv :=
    List.foldlRecOn ops RevModel.step ⟨fun _ _ => rfl, fun _ _ => rfl⟩ fun m hm op _ => RevModel.step_inv m op hm
  refine ⟨hm, ?_⟩
  rw [funext fun w => funext (hm.1 w), funext fun w => funext (hm.2 w)]

def litFm (i : Nat) (b : Bool) : Fm := if b then .atom i else .neg (.atom i)

theorem litFm_eval (i : Nat) (b : Bool) (w : World) : (litFm i b).eval w = (w.getD i false == b) := by
  cases b <;> simp [litFm, Fm.eval] <;> cases w.getD i false <;> rfl

/-- **C19 (mask = evaluation)**: for a conditional whose antecedent and consequent are literals the bit test of
`compile_alt_fast` / `CRevisionModel.add_conditional` classifies a world exactly as evaluation does -/
theorem C19_mask_eq_eval (ai ci : Nat) (av cv : Bool) (key : Nat) (w : World) :
    let c : Cond := ⟨litFm ci cv, litFm ai av, key⟩
    (c.ver w = (w.getD ai false == av && w.getD ci false == cv)) ∧
    (c.fal w = (w.getD ai false == av && !(w.getD ci false == cv))) := by
  simp only [Cond.ver, Cond.fal, litFm_eval]
  exact ⟨trivial, trivial⟩

/-- reference compilation (per conditional, then per world) and fast compilation (per world, classification computed
once and distributed) emit the same triples -/
def altTriples (Ω : List World) (κ : World → Nat) (conds : Nat → Option Cond) (keys : List Nat) (k : Nat) :
    List (Nat × List Nat × List Nat) :=
  (Ω.filter fun w => freshAcc conds w k).map fun w => tripleOf κ (freshAcc conds) (freshRej conds) keys w k

def fastTriples (Ω : List World) (κ : World → Nat) (conds : Nat → Option Cond) (keys : List Nat) (k : Nat) :
    List (Nat × List Nat × List Nat) :=
  Ω.filterMap fun w =>
    let accL := keys.filter (freshAcc conds w)
    let rejL := keys.filter (freshRej conds w)
    if accL.isEmpty && rejL.isEmpty then none
    else if accL.contains k then some (κ w, accL.filter (· != k), rejL.filter (· != k))
    else none

theorem C19_fast_eq_alt (Ω : List World) (κ : World → Nat) (conds : Nat → Option Cond) (keys : List Nat) (k : Nat)
    (hk : k ∈ keys) : fastTriples Ω κ conds keys k = altTriples Ω κ conds keys k := by
  unfold fastTriples altTriples
  rw [← List.filterMap_eq_map', List.filterMap_filter]
  congr 1
  funext w
  have hc := contains_filter hk (freshAcc conds w)
  cases ha : freshAcc conds w k with
  | false => simp only [hc, ha, Bool.false_eq_true, if_false, ite_self]
  | true =>
    -- `k` itself is among the accepted keys, so the world is not skipped
    have hne : (keys.filter (freshAcc conds w)).isEmpty = false :=
      List.isEmpty_eq_false_iff_exists_mem.mpr ⟨k, List.mem_filter.mpr ⟨hk, ha⟩⟩
    simp only [hc, ha, hne, Bool.false_and, Bool.false_eq_true, if_false, if_true, tripleOf, List.filter_filter]

/-- **γ⁻ Pareto-minimality by the box test** (for fixed γ⁺) -/
theorem C19_pareto_box (Ω : List World) (κ : World → Nat) (R : List Cond) (gp gm : List Nat) :
    revParetoMinB Ω κ R gp gm = true ↔
      ∀ gm' : List Nat, leVec gm' gm = true → revOkB Ω κ R gp gm' = true → gm' = gm :=
  box_all_iff (revOkB Ω κ R gp) gm

theorem impOf_map_zero (R : List Cond) (c : Cond) : impOf R (R.map fun _ => 0) c = 0 := by
  rw [impOf, List.getD_eq_getElem?_getD, List.getElem?_map]
  cases R[R.idxOf c]? <;> rfl

theorem cost_eq_zero {f : Cond → Nat} (h : ∀ c, f c = 0) (S : List Cond) : cost f S = 0 :=
  List.sum_eq_zero_iff_forall_eq_nat.mpr fun _ hx => by obtain ⟨c, _, rfl⟩ := List.mem_map.mp hx; exact h c

/-- **all-zero prior, γ⁺ = 0**: the revised ranking is the c-representation ranking of the γ⁻ vector, so the
returned γ⁻ is an impact vector of a c-representation of the revision conditionals -/
theorem C19_zero_prior_is_crep (R : List Cond) (gm : List Nat) (w : World) :
    kappaRev (fun _ => 0) R (R.map fun _ => 0) gm w = kappaC R (impOf R gm) w := by
  rw [kappaRev, cost_eq_zero (impOf_map_zero R)]
  exact Nat.zero_add _

end InfOCF
