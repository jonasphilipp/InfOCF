import InfOCFModel.Parser
/-!
# C10  The parser yields exactly the documented meaning, or rejects

Token level. `D lvl ts f` is the documented reading: level 0 = atoms, constants, negation,
parentheses; level 1 = conjunctions (`,`); level 2 = disjunctions (`;`) — i.e. `!` binds tighter
than `,`, which binds tighter than `;`, parentheses override. `parseFm` is the model of what the
generated parser + visitor compute for the `formula` rule followed by end of input.
-/
namespace InfOCF

/-- **accepted ⇒ documented meaning, documented ⇒ accepted** (the reading is unique: `D_unique`) -/
theorem C10_parse_iff (ts : List Tok) (f : Fm) : parseFm ts = some f ↔ D 2 ts f := parseFm_iff ts f

/-- **text that is not entirely well formed is rejected** (and only such text) -/
theorem C10_reject_iff (ts : List Tok) : parseFm ts = none ↔ ¬ ∃ f, D 2 ts f := by
  simp only [← parseFm_iff, Option.eq_none_iff_forall_ne_some, not_exists, ne_eq]

theorem D_le {l l' ts f} (h : D l ts f) (hl : l ≤ l') (h2 : l' ≤ 2) : D l' ts f := by
  induction hl with
  | refl => exact h
  | @step m _ ih =>
    have := ih (Nat.le_of_succ_le h2)
    rcases m with _ | _ | m
    · exact .up1 this
    · exact .up2 this
    · omega

theorem pp_derives (f : Fm) (lvl : Nat) (hl : lvl ≤ 2) : D lvl (pp lvl f) f := by
  induction f generalizing lvl with
  | top => exact D_le .top (Nat.zero_le _) hl
  | bot => exact D_le .bot (Nat.zero_le _) hl
  | atom n => exact D_le (.atom n) (Nat.zero_le _) hl
  | neg a ih => exact D_le (.neg (ih 0 (by decide))) (Nat.zero_le _) hl
  | and a b iha ihb =>
    have hconj := D.conj (iha 1 (by decide)) (ihb 0 (by decide))
    rw [pp]; split
    next => exact D_le (.paren (.up2 hconj)) (Nat.zero_le _) hl
    next h => exact D_le hconj (Nat.pos_of_ne_zero h) hl
  | or a b iha ihb =>
    have hdisj := D.disj (iha 2 (by decide)) (ihb 1 (by decide))
    rw [pp]; split
    next => exact D_le (.paren hdisj) (Nat.zero_le _) hl
    next h => exact D_le hdisj (Nat.lt_of_not_le h) hl

/-- **print–parse round trip**: every formula has a text (minimal parentheses) that parses back to it -/
theorem C10_print_parse (f : Fm) : parseFm (pp 2 f) = some f :=
  parseFm_complete _ f (pp_derives f 2 (Nat.le_refl _))

/-- the connectives mean what the documentation says: `,` is conjunction, `;` disjunction, `!` negation -/
theorem C10_eval_and_or (a b : Fm) (w : World) :
    (∀ f, parseFm (pp 1 a ++ .comma :: pp 0 b) = some f → f.eval w = (a.eval w && b.eval w)) ∧
    (∀ f, parseFm (pp 2 a ++ .semi :: pp 1 b) = some f → f.eval w = (a.eval w || b.eval w)) ∧
    (∀ f, parseFm (.not :: pp 0 a) = some f → f.eval w = !(a.eval w)) := by
  rw [parseFm_complete _ _ (D.up2 (D.conj (pp_derives a 1 (by decide)) (pp_derives b 0 (by decide)))),
    parseFm_complete _ _ (D.disj (pp_derives a 2 (by decide)) (pp_derives b 1 (by decide))),
    parseFm_complete _ _ (D.up2 (D.up1 (D.neg (pp_derives a 0 (by decide)))))]
  refine ⟨?_, ?_, ?_⟩ <;> intro f hf <;> cases hf <;> rfl

/-- precedence on canonical instances (evaluated by the kernel) -/
theorem C10_precedence :
    parseFm [.not, .id 0, .comma, .id 1] = some (.and (.neg (.atom 0)) (.atom 1)) ∧
    parseFm [.id 0, .comma, .id 1, .semi, .id 2] = some (.or (.and (.atom 0) (.atom 1)) (.atom 2)) ∧
    parseFm [.id 0, .semi, .id 1, .comma, .id 2] = some (.or (.atom 0) (.and (.atom 1) (.atom 2))) ∧
    parseFm [.id 0, .comma, .lpar, .id 1, .semi, .id 2, .rpar] = some (.and (.atom 0) (.or (.atom 1) (.atom 2))) ∧
    parseFm [.id 0, .comma, .id 1, .comma, .id 2] = some (.and (.and (.atom 0) (.atom 1)) (.atom 2)) ∧
    parseFm [.id 0, .id 1] = none ∧ parseFm [.id 0, .comma, .id 1, .rpar] = none ∧ parseFm [.id 0, .comma] = none := by
  decide +kernel

end InfOCF
