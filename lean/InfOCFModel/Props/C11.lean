import InfOCFModel.Ops
import InfOCFModel.Mcs
/-!
# C11  Answers do not depend on the chosen solver back-end

The recursions of System W and lexicographic inference use the optimizer only through the *set* of
correction sets one call returns. `algWWith opt` / `algLexWith opt` are the recursions over an
arbitrary optimizer `opt`; if `opt` returns, in any order and with any repetitions, exactly the
inclusion-minimal falsification sets (`famMin` — the contract each back-end's enumeration loop meets,
`enumLoop_spec` + `minimal_of_enum`, C15), the answer is that of the reference recursion, hence the
same for every back-end and SAT engine.
-/
namespace InfOCF

def SetEq (X Y : List (List Cond)) : Prop := ∀ s, s ∈ X ↔ s ∈ Y

abbrev Optimizer := List Cond → List World → List (List Cond)

def MeetsContract (opt : Optimizer) : Prop := ∀ L H, SetEq (opt L H) (famMin L H)

def algWWith (opt : Optimizer) : List (List Cond) → List World → List World → Bool
  | [], _, _ => false
  | L :: rest, Hv, Hf =>
    let Xv := opt L Hv
    let Xf := opt L Hf
    if !(Xf.all fun b => Xv.any fun a => subsetL a b) then false
    else (Xv.filter (Xf.contains ·)).all fun x =>
      match rest with
      | [] => false
      | _ => algWWith opt rest (Hv.filter (fset L · == x)) (Hf.filter (fset L · == x))

theorem all_setEq {X Y : List (List Cond)} (h : SetEq X Y) (p : List Cond → Bool) : X.all p = Y.all p := by
  rw [Bool.eq_iff_iff, List.all_eq_true, List.all_eq_true]
  exact forall_congr' fun s => imp_congr_left (h s)

theorem any_setEq {X Y : List (List Cond)} (h : SetEq X Y) (p : List Cond → Bool) : X.any p = Y.any p := by
  rw [Bool.eq_iff_iff, List.any_eq_true, List.any_eq_true]
  exact exists_congr fun s => and_congr_left' (h s)

theorem filter_setEq {X Y : List (List Cond)} (h : SetEq X Y) {p q : List Cond → Bool} (hpq : ∀ s, p s = q s) :
    SetEq (X.filter p) (Y.filter q) := by
  intro s; simp only [List.mem_filter, hpq]; rw [h s]

theorem contains_setEq {X Y : List (List Cond)} (h : SetEq X Y) (s : List Cond) : X.contains s = Y.contains s := by
  rw [Bool.eq_iff_iff, List.contains_iff_mem, List.contains_iff_mem]; exact h s

/-- **System W is back-end independent** -/
theorem C11_W_backend_free (opt : Optimizer) (hopt : MeetsContract opt) :
    ∀ (layers : List (List Cond)) (Hv Hf : List World), algWWith opt layers Hv Hf = algWCode layers Hv Hf := by
  intro layers
  induction layers with
  | nil => intro _ _; rfl
  | cons L rest ih =>
    intro Hv Hf
    have hv := hopt L Hv
    have hf := hopt L Hf
    simp only [algWWith, algWCode, all_setEq hf, any_setEq hv,
      all_setEq (filter_setEq hv fun s => contains_setEq hf s), ih]
    -- the two sides now differ only in which auxiliary `match rest with` of the two recursions they mention
    rfl

def algLexWith (opt : Optimizer) : List (List Cond) → List World → List World → Bool
  | [], _, _ => false
  | L :: rest, Hv, Hf =>
    let Xv := opt L Hv
    let Xf := opt L Hf
    if Xv.isEmpty then false else if Xf.isEmpty then true else
    let mv := minLen Xv
    let mf := minLen Xf
    if mv < mf then true else if mf < mv then false else
    (Xv.filter (·.length == mv)).any fun xv => (Xf.filter (·.length == mf)).all fun xf =>
      algLexWith opt rest (Hv.filter (fset L · == xv)) (Hf.filter (fset L · == xf))

theorem isEmpty_setEq {X Y : List (List Cond)} (h : SetEq X Y) : X.isEmpty = Y.isEmpty := by
  rw [Bool.eq_iff_iff, List.isEmpty_iff, List.isEmpty_iff, List.eq_nil_iff_forall_not_mem,
    List.eq_nil_iff_forall_not_mem]
  exact forall_congr' fun s => not_congr (h s)

theorem minLen_setEq {X Y : List (List Cond)} (h : SetEq X Y) : minLen X = minLen Y := by
  -- the minimum over `Y` is attained, at a member of `X`
  have key : ∀ {X Y : List (List Cond)}, SetEq X Y → Y ≠ [] → minLen X ≤ minLen Y := fun h hY => by
    obtain ⟨t, ht, htl⟩ := minLen_mem hY
    exact htl ▸ minLen_le_mem ((h t).mpr ht)
  have he := isEmpty_setEq h
  cases X with
  | nil => rw [List.isEmpty_iff.mp he.symm]
  | cons a t =>
    have hY : Y ≠ [] := fun e => by rw [e] at he; cases he
    exact Nat.le_antisymm (key h hY) (key (fun s => (h s).symm) (List.cons_ne_nil _ _))

/-- **lexicographic inference is back-end independent** -/
theorem C11_Lex_backend_free (opt : Optimizer) (hopt : MeetsContract opt) :
    ∀ (layers : List (List Cond)) (Hv Hf : List World), algLexWith opt layers Hv Hf = algLex layers Hv Hf := by
  intro layers
  induction layers with
  | nil => intro _ _; rfl
  | cons L rest ih =>
    intro Hv Hf
    have hv := hopt L Hv
    have hf := hopt L Hf
    simp only [algLexWith, algLex, isEmpty_setEq hv, isEmpty_setEq hf, minLen_setEq hv, minLen_setEq hf,
      any_setEq (filter_setEq hv fun _ => rfl), all_setEq (filter_setEq hf fun _ => rfl), ih]

/-- the inclusion-minimal members of what an enumeration loop returns are exactly `famMin`; the contract itself is this for
a loop followed by a superset removal that keeps exactly the inclusion-minimal members -/
theorem C11_loop_meets_contract {L : List Cond} {H : List World} (o : Oracle L H) (s : List Cond) :
    let res := enumLoop o (unblockedCount L H [] + 1) []
    (s ∈ res ∧ ∀ t ∈ res, subsetL t s = true → t = s) ↔ s ∈ famMin L H := by
  intro res
  obtain ⟨hreal, hcov⟩ := enumLoop_spec o (unblockedCount L H [] + 1) [] (Nat.lt_succ_self _) (List.forall_mem_nil _)
  exact minimal_of_enum res hreal hcov s

/-! ### The z3 enumeration loop (`get_all_xi_i`) meets the optimizer contract without superset removal

The z3 back-ends add one soft constraint per conditional, so an optimum model falsifies a
*minimum-cardinality* set among the worlds not yet blocked. -/

structure OracleMin (L : List Cond) (H : List World) extends Oracle L H where
  optimal : ∀ b w, pick b = some w → ∀ w' ∈ H, blockedBy L b w' = false →
    (fset L w).length ≤ (fset L w').length

/-- a minimum-cardinality answer is inclusion-minimal: a feasible world below it is unblocked as well, hence not
shorter, hence equal -/
theorem OracleMin.pick_famMin {L : List Cond} {H : List World} (o : OracleMin L H)
    {acc : List (List Cond)} {w : World} (hp : o.pick acc = some w) : fset L w ∈ famMin L H := by
  obtain ⟨hwH, hwb⟩ := o.sound acc w hp
  exact fset_mem_famMin hwH fun w' hw' hsub => o.optimal acc w hp w' hw' <|
    Bool.eq_false_iff.mpr fun hb => Bool.eq_false_iff.mp hwb (blockedBy_of_subset hsub hb)

/-- **the z3 loop is exact**: with a minimum-cardinality oracle the blocking loop (no superset removal) returns exactly
the inclusion-minimal falsification sets -/
theorem C03_z3enum {L : List Cond} {H : List World} (hL : L.Nodup) (o : OracleMin L H) (s : List Cond) :
    s ∈ enumLoop o.toOracle (unblockedCount L H [] + 1) [] ↔ s ∈ famMin L H := by
  -- every recorded set is the set of a picked world, hence in `famMin` (loop rule with `Q := (· ∈ famMin L H)`)
  have hrec : ∀ V ∈ enumLoop o.toOracle (unblockedCount L H [] + 1) [], V ∈ famMin L H :=
    (enumLoop_induct o.toOracle (fun _ _ hp => o.pick_famMin hp) _ [] (Nat.lt_succ_self _) (List.forall_mem_nil _)).1
  -- conversely `famMin` is the set of inclusion-minimal members of the result, for any oracle
  exact ⟨hrec s, fun hs => ((C11_loop_meets_contract o.toOracle s).mpr hs).1⟩

end InfOCF
