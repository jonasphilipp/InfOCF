import InfOCFModel.Budget
/-!
# C14  Time budgets never produce an unflagged wrong answer
-/
namespace InfOCF

def Prog.value {α} : Prog α → α
  | .ret a => a
  | .poll next => next.value
  | .solve v s u => if v then s.value else u.value

theorem run_none {α} (p : Prog α) (i j : Nat) : p.run Schedule.none i j = .val p.value := by
  induction p generalizing i j with
  | ret a => rfl
  | poll next ih => exact ih (i + 1) j
  | solve v s u ihs ihu =>
    cases v
    · exact ihu i (j + 1)
    · exact ihs i (j + 1)

theorem run_timeout_or_value {α} (σ : Schedule) (p : Prog α) (i j : Nat) :
    p.run σ i j = .timeout ∨ p.run σ i j = .val p.value := by
  induction p generalizing i j with
  | ret a => exact Or.inr rfl
  | poll next ih =>
    rw [Prog.run]
    cases σ.expiredAt i
    · exact ih (i + 1) j
    · exact Or.inl rfl
  | solve v s u ihs ihu =>
    rw [Prog.run]
    cases σ.unknownAt j
    · cases v
      · exact ihu i (j + 1)
      · exact ihs i (j + 1)
    · exact Or.inl rfl

/-- **fail-stop**: whatever the schedule, a run either raises `TimeoutError` or returns exactly what the
run without any expiry returns; it never ends in another exception -/
theorem C14_failstop {α} (σ : Schedule) : ∀ (p : Prog α) (i j i' j' : Nat),
    p.run σ i j = .timeout ∨ p.run σ i j = p.run Schedule.none i' j' := by
  intro p i j i' j'
  rw [run_none]; exact run_timeout_or_value σ p i j

/-- **rows**: under every schedule a query's row exists (no exception escapes), and it is either flagged
with answer False or equal to the row of the run without budgets -/
theorem C14_rows_failstop (σ : Schedule) (p : Prog Bool) :
    ∃ r r0, rowOfRes (p.run σ 0 0) = some r ∧ rowOfRes (p.run Schedule.none 0 0) = some r0 ∧
      r0.flagged = false ∧ ((r.flagged = true ∧ r.result = false) ∨ r = r0) := by
  have ha := run_none p 0 0
  rcases run_timeout_or_value σ p 0 0 with h | h
  · exact ⟨⟨false, true, false⟩, ⟨p.value, false, false⟩, by rw [h]; rfl, by rw [ha]; rfl, rfl, Or.inl ⟨rfl, rfl⟩⟩
  · exact ⟨⟨p.value, false, false⟩, ⟨p.value, false, false⟩, by rw [h]; rfl, by rw [ha]; rfl, rfl, Or.inr rfl⟩

theorem preStep_good (P : Option (List (List Cond))) (preProg : Prog Unit) (σpre : Schedule) (s : BState)
    (hs : s.pre = none ∨ s.pre = some P) :
    (preStep P preProg σpre s).pre = none ∨ (preStep P preProg σpre s).pre = some P := by
  unfold preStep
  rcases hs with h | h
  · rw [h]
    cases preProg.run σpre 0 0 <;> simp [h]
  · simp [h]

def RowOk (q : Prog Bool × Schedule) (r : BRow) : Prop :=
  (r.flagged = true ∧ r.result = false) ∨ rowOfRes (q.1.run Schedule.none 0 0) = some r

/-- the row of a query run under its schedule (no exception escapes: `rowOfRes_run`) -/
def rowOf (q : Prog Bool × Schedule) : BRow := (rowOfRes (q.1.run q.2 0 0)).getD ⟨false, true, false⟩

theorem rowOfRes_run (q : Prog Bool × Schedule) : rowOfRes (q.1.run q.2 0 0) = some (rowOf q) ∧ RowOk q (rowOf q) := by
  obtain ⟨r, r0, hr, hr0, _, hcase⟩ := C14_rows_failstop q.2 q.1
  rw [rowOf, hr]
  exact ⟨rfl, hcase.imp id fun (h : r = r0) => h ▸ hr0⟩

theorem queryRows_eq_map (qs : List (Prog Bool × Schedule)) : queryRows qs = some (qs.map rowOf) := by
  induction qs with
  | nil => rfl
  | cons q rest ih => rw [queryRows, (rowOfRes_run q).1, ih]; rfl

theorem rows_of_map {g : Prog Bool × Schedule → BRow} (hg : ∀ q, RowOk q (g q)) (qs : List (Prog Bool × Schedule)) :
    (qs.map g).length = qs.length ∧
    ∀ (i : Nat) (r : BRow), (qs.map g)[i]? = some r → ∃ q : Prog Bool × Schedule, qs[i]? = some q ∧ RowOk q r := by
  refine ⟨List.length_map _, fun i r h => ?_⟩
  rw [List.getElem?_map] at h
  obtain ⟨q, hq, rfl⟩ := Option.map_eq_some_iff.mp h
  exact ⟨q, hq, hg q⟩

/-- **whole call and state**: every row of a call is flagged-False or equal to the fault-free row, no
exception escapes, and the cache afterwards is empty or holds the fault-free preprocessing result — the state
in which the next call on the same manager starts. With `P = partFor weakly Ω D` this is the shape of `Good`
(`Props/C13.lean`), the hypothesis of `C13_history`; that is stated for `MState`, and no theorem connects the two state types -/
theorem C14_state_good (P : Option (List (List Cond))) (preProg : Prog Unit) (σpre : Schedule)
    (queries : List (Prog Bool × Schedule)) (s : BState) (hs : s.pre = none ∨ s.pre = some P) :
    ((bcall P preProg σpre queries s).1.pre = none ∨ (bcall P preProg σpre queries s).1.pre = some P) ∧
    ∃ rows, (bcall P preProg σpre queries s).2 = some rows ∧ rows.length = queries.length ∧
      ∀ (i : Nat) (r : BRow), rows[i]? = some r → ∃ q : Prog Bool × Schedule, queries[i]? = some q ∧ RowOk q r := by
  have hgood := preStep_good P preProg σpre s hs
  rw [bcall]
  cases (preStep P preProg σpre s).preTimedOut
  · exact ⟨hgood, _, queryRows_eq_map queries, rows_of_map (fun q => (rowOfRes_run q).2) queries⟩
  · exact ⟨hgood, _, rfl, rows_of_map (g := fun _ => ⟨false, false, true⟩) (fun _ => Or.inl ⟨rfl, rfl⟩) queries⟩

/-- effective budgets never exceed the total budget -/
theorem C14_budget_le_total (total pre inf : Nat) (preTimeMs : Int) (ht : total ≠ 0) :
    effPre total pre ≤ total ∧ effInfMs total inf preTimeMs ≤ (total : Int) * 1000 - preTimeMs := by
  constructor
  · unfold effPre
    by_cases hp : pre ≠ 0
    · rw [if_pos ⟨ht, hp⟩]; exact Nat.min_le_left _ _
    · rw [if_neg fun h => hp h.2, if_pos ht]; exact Nat.le_refl _
  · unfold effInfMs
    by_cases hi : inf ≠ 0
    · rw [if_pos ⟨ht, hi⟩]; exact Int.min_le_left _ _
    · rw [if_neg fun h => hi h.2, if_pos ht]; exact Int.le_refl _

/-- the z3 loops before the repair: a single `unknown` verdict makes an exception escape -/
theorem C14_unknown_as_sat_wrong :
    let p : Prog Bool := .solve true (.solve false (.ret true) (.ret false)) (.ret true)
    let σ : Schedule := ⟨fun _ => false, fun j => j == 1⟩
    rowOfRes (p.runOld σ 0 0) = none ∧ rowOfRes (p.run σ 0 0) = some ⟨false, true, false⟩ ∧
    rowOfRes (p.run Schedule.none 0 0) = some ⟨false, false, false⟩ := by
  decide +kernel

end InfOCF
