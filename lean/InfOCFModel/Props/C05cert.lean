import InfOCFModel.CCert
import InfOCFModel.Props.C05
/-!
# C05, direction "True": an accepted refutation certificate (`cCertCheck`, CCert.lean) implies skeptical c-inference

The harness finds the multipliers (z3 as an LP search); the driver runs `cCertCheck`; so on every input where the
implementation answers True and a certificate is found, "every c-representation accepts the query" is established
by `C05_cert_sound` and not by an SMT solver's `unsat`.
-/
namespace InfOCF

theorem valF_cons (a : Cond) (t : List Cond) (imp f : Cond → Nat) :
    valF (a :: t) imp f = f a * imp a + valF t imp f := rfl

theorem valF_add (D : List Cond) (imp f g : Cond → Nat) :
    valF D imp (fun c => f c + g c) = valF D imp f + valF D imp g := by
  induction D with
  | nil => rfl
  | cons a t ih => rw [valF_cons, valF_cons, valF_cons, ih, Nat.add_mul, Nat.add_add_add_comm]

theorem valF_smul (D : List Cond) (imp f : Cond → Nat) (m : Nat) :
    valF D imp (fun c => m * f c) = m * valF D imp f := by
  induction D with
  | nil => rfl
  | cons a t ih => rw [valF_cons, valF_cons, ih, Nat.mul_add, Nat.mul_assoc]

theorem valF_mono (D : List Cond) (imp f g : Cond → Nat) (h : ∀ c ∈ D, f c ≤ g c) :
    valF D imp f ≤ valF D imp g := by
  induction D with
  | nil => exact Nat.le_refl _
  | cons a t ih =>
    exact Nat.add_le_add (Nat.mul_le_mul_right _ (h a List.mem_cons_self)) (ih fun c hc => h c (List.mem_cons_of_mem _ hc))

theorem Ineq.holds_iff (D : List Cond) (imp : Cond → Nat) (e : Ineq) :
    e.holds D imp ↔ valF D imp e.lhs + (if e.strict then 1 else 0) ≤ valF D imp e.rhs := by
  unfold Ineq.holds; cases e.strict <;> exact Iff.rfl

theorem totL_cons (p : Nat × Ineq) (t : List (Nat × Ineq)) :
    totL (p :: t) = fun c => p.1 * p.2.lhs c + totL t c := rfl
theorem totR_cons (p : Nat × Ineq) (t : List (Nat × Ineq)) :
    totR (p :: t) = fun c => p.1 * p.2.rhs c + totR t c := rfl

/-- the weighted inequalities add up, each strict one contributing its weight as slack -/
theorem weighted_slack (D : List Cond) (imp : Cond → Nat) (L : List (Nat × Ineq)) (h : ∀ p ∈ L, p.2.holds D imp) :
    valF D imp (totL L) + sumL (L.map fun p => p.1 * if p.2.strict then 1 else 0) ≤ valF D imp (totR L) := by
  induction L with
  | nil => exact Nat.le_refl _
  | cons p t ih =>
    have ht := ih fun x hx => h x (List.mem_cons_of_mem _ hx)
    have hp := Nat.mul_le_mul_left p.1 ((Ineq.holds_iff D imp p.2).mp (h p List.mem_cons_self))
    rw [Nat.mul_add] at hp
    rw [totL_cons, totR_cons, valF_add, valF_add, valF_smul, valF_smul, List.map_cons, sumL_cons, Nat.add_add_add_comm]
    exact Nat.add_le_add hp ht

theorem slack_pos (L : List (Nat × Ineq)) (hs : (L.any fun p => p.2.strict && decide (1 ≤ p.1)) = true) :
    1 ≤ sumL (L.map fun p => p.1 * if p.2.strict then 1 else 0) := by
  obtain ⟨p, hp, h⟩ := List.any_eq_true.mp hs
  simp only [Bool.and_eq_true, decide_eq_true_eq] at h
  refine List.sum_pos_iff_exists_pos_nat.mpr ⟨_, List.mem_map.mpr ⟨p, hp, rfl⟩, ?_⟩
  rw [h.1, if_pos rfl, Nat.mul_one]; exact h.2

theorem farkas_sound (D : List Cond) (imp : Cond → Nat) (L : List (Nat × Ineq)) (h : ∀ p ∈ L, p.2.holds D imp)
    (hok : farkasOK D L = true) : False := by
  unfold farkasOK at hok
  simp only [Bool.and_eq_true, List.all_eq_true, decide_eq_true_eq] at hok
  obtain ⟨hdom, hstrict⟩ := hok
  -- Farkas step: the combination is at least 1 short on the left, yet its right side is dominated by its left
  have : valF D imp (totL L) + 1 ≤ valF D imp (totL L) :=
    calc valF D imp (totL L) + 1
        ≤ valF D imp (totL L) + sumL (L.map fun p => p.1 * if p.2.strict then 1 else 0) :=
          Nat.add_le_add_left (slack_pos L hstrict) _
      _ ≤ valF D imp (totR L) := weighted_slack D imp L h
      _ ≤ valF D imp (totL L) := valF_mono D imp _ _ hdom
  exact Nat.not_succ_le_self _ this

theorem sum_ite_filter (imp : Cond → Nat) (p : Cond → Bool) (l : List Cond) :
    sumL (l.map fun c => (if p c then 1 else 0) * imp c) = sumL ((l.filter p).map imp) := by
  induction l with
  | nil => rfl
  | cons a t ih =>
    cases hp : p a <;> simp [hp, sumL_cons, ih]

theorem valF_ind_filter (D : List Cond) (imp : Cond → Nat) (p : Cond → Bool) :
    valF D imp (ind (D.filter p)) = cost imp (D.filter p) := by
  rw [cost, ← sum_ite_filter imp p D]
  refine congrArg sumL (List.map_congr_left fun c hc => ?_)
  rw [ind, contains_filter hc]

theorem valF_ind_single (D : List Cond) (hD : D.Nodup) (imp : Cond → Nat) (i : Cond) (hi : i ∈ D) :
    valF D imp (ind [i]) = imp i := by
  have h : D.filter (· == i) = [i] := by rw [List.filter_beq, hD.count, if_pos hi]; rfl
  rw [← h, valF_ind_filter, h]; exact Nat.add_zero _

theorem fset_others (D : List Cond) (i : Cond) (w : World) :
    fset (others D i) w = D.filter fun c => c.fal w && c != i := List.filter_filter ..

theorem valF_ind_famMin {D L : List Cond} {g : World → Cond → Bool} (hL : ∀ w, fset L w = D.filter (g w))
    (imp : Cond → Nat) {H : List World} {s : List Cond} (h : s ∈ famMin L H) : valF D imp (ind s) = cost imp s := by
  obtain ⟨w, _, rfl⟩ := famMin_real h
  rw [hL]; exact valF_ind_filter D imp _

theorem compiledOne_choice (Ω : List World) (D : List Cond) (imp : Cond → Nat) (i : Cond)
    (h : CompiledOne Ω D imp i) :
    ∃ S ∈ famMin (others D i) (Ω.filter i.ver), ∀ T ∈ famMin (others D i) (Ω.filter i.fal),
      cost imp S < imp i + cost imp T := by
  rw [compiledOne_eq, leastCost, leastCost, leastNat_eq_min?, leastNat_eq_min?] at h
  exact (optLt_min? fun h1 h2 => lt_of_le_lt_le h1 (Nat.add_le_add_left h2 _)).mp h

theorem query_choice (Ω : List World) (D : List Cond) (imp : Cond → Nat) (q : Cond)
    (hF : famMin D (Ω.filter q.fal) ≠ []) (h : ¬ CompiledQueryAccepts Ω D imp q) :
    ∃ T ∈ famMin D (Ω.filter q.fal), ∀ S ∈ famMin D (Ω.filter q.ver), cost imp T ≤ cost imp S := by
  -- the cheapest falsifying set: were some verifying set cheaper, it would be cheaper than all of them
  cases hf : leastCost imp (famMin D (Ω.filter q.fal)) with
  | none => exact (hF (List.map_eq_nil_iff.mp ((leastNat_none _).mp hf))).elim
  | some mf =>
    obtain ⟨hmin, T, hT, hle⟩ := (leastNat_map_some _ _ mf).mp hf
    refine ⟨T, hT, fun S hS => Nat.le_of_not_lt fun hlt => h ?_⟩
    rw [compiledQueryAccepts_eq, leastCost, leastCost, leastNat_eq_min?, leastNat_eq_min?]
    exact (optLt_min? lt_of_le_lt_le).mpr
      ⟨S, hS, fun T' hT' => Nat.lt_of_lt_of_le hlt (Nat.le_trans hle (hmin T' hT'))⟩

theorem choices_exists {α β : Type} {V : β → List α} {P : β → α → Prop} (tab : List β)
    (h : ∀ x ∈ tab, ∃ S ∈ V x, P x S) : ∃ ch ∈ choices (tab.map V), ∀ y ∈ tab.zip ch, P y.1 y.2 := by
  induction tab with
  | nil => exact ⟨[], List.mem_singleton.mpr rfl, List.forall_mem_nil _⟩
  | cons x t ih =>
    obtain ⟨S, hS, hP⟩ := h x List.mem_cons_self
    obtain ⟨ch, hch, hall⟩ := ih fun y hy => h y (List.mem_cons_of_mem _ hy)
    exact ⟨S :: ch, List.mem_flatMap.mpr ⟨S, hS, List.mem_map.mpr ⟨ch, hch, rfl⟩⟩, List.forall_mem_cons.mpr ⟨hP, hall⟩⟩

theorem forall_rows {α γ ι : Type} {A : List α} {bm : List (List Nat)} {G : α × List Nat → List γ}
    {mk : α × List Nat → γ × Nat → ι} {P : Nat × ι → Prop}
    (h : ∀ x y, x.1 ∈ A → y.1 ∈ G x → P (y.2, mk x y)) :
    ∀ p ∈ (A.zip bm).flatMap fun x => ((G x).zip x.2).map fun y => (y.2, mk x y), P p := by
  intro p hp
  obtain ⟨x, hx, hp⟩ := List.mem_flatMap.mp hp
  obtain ⟨y, hy, rfl⟩ := List.mem_map.mp hp
  exact h x y (List.of_mem_zip hx).1 (List.of_mem_zip hy).1

/-- what a c-representation gives every certificate checker: one verifying set per row of the compiled table such
that each row inequality `Σ_S η < η_i + Σ_T η` holds -/
theorem crep_rows (Ω : List World) (D : List Cond) (hD : D.Nodup) (imp : Cond → Nat) (hbase : ∀ i ∈ D, CompiledOne Ω D imp i) :
    ∃ ch ∈ choices ((ctab Ω D).map (·.V)), ∀ y ∈ (ctab Ω D).zip ch, ∀ T ∈ y.1.F,
      valF D imp (ind y.2) < valF D imp (ind [y.1.i]) + valF D imp (ind T) := by
  refine choices_exists (V := (·.V))
    (P := fun x S => ∀ T ∈ x.F, valF D imp (ind S) < valF D imp (ind [x.i]) + valF D imp (ind T)) (ctab Ω D) fun x hx => ?_
  obtain ⟨i, hi, rfl⟩ := List.mem_map.mp hx
  obtain ⟨S, hS, hfacts⟩ := compiledOne_choice Ω D imp i (hbase i hi)
  refine ⟨S, hS, fun T hT => ?_⟩
  rw [valF_ind_single D hD imp i hi, valF_ind_famMin (fset_others D i) imp hS, valF_ind_famMin (fset_others D i) imp hT]
  exact hfacts T hT

/-- **an accepted certificate proves the answer True**: if the checker accepts the pool of refutations, every
c-representation of `D` accepts `q` (or `q` has no falsifying world) -/
theorem C05_cert_sound (Ω : List World) (D : List Cond) (hD : D.Nodup) (q : Cond) (pool : List CLeaf)
    (h : cCertCheck Ω D q pool = true) : specC Ω D q := by
  by_cases hf : ∃ w ∈ Ω, q.fal w = true
  case neg => exact Or.inl fun w hw => Bool.eq_false_iff.mpr fun hfw => hf ⟨w, hw, hfw⟩
  refine (C05_main Ω D hD q hf).mp ?_
  rintro ⟨imp, hbase, hq⟩
  obtain ⟨w, hw, hfw⟩ := hf
  obtain ⟨T, hT, hTfacts⟩ := query_choice Ω D imp q
    (famMin_ne_nil D (List.ne_nil_of_mem (List.mem_filter.mpr ⟨hw, hfw⟩))) hq
  obtain ⟨ch, hch, hchfacts⟩ := crep_rows Ω D hD imp hbase
  unfold cCertCheck at h
  have h1 := (Bool.or_eq_true_iff.mp h).resolve_left fun h0 => by
    have := List.all_eq_true.mp h0 w hw
    rw [hfw] at this; cases this
  simp only [List.all_eq_true, List.any_eq_true] at h1
  obtain ⟨lf, _, hok⟩ := h1 ch hch T hT
  refine farkas_sound D imp _ (List.forall_mem_append.mpr
    ⟨forall_rows fun x y hx hy => ?_, List.forall_mem_map.mpr fun y hy => ?_⟩) hok
  · show valF D imp (ind x.1.2) < valF D imp fun c => ind [x.1.1.i] c + ind y.1 c
    rw [valF_add]
    exact hchfacts x.1 hx y.1 hy
  · have hy1 := (List.of_mem_zip hy).1
    show valF D imp (ind T) ≤ valF D imp (ind y.1)
    rw [valF_ind_famMin (fun _ => rfl) imp hT, valF_ind_famMin (fun _ => rfl) imp hy1]
    exact hTfacts y.1 hy1

/-! non-vacuity: the penguin base `(f|b), (¬f|p), (b|p)` c-entails `(¬f | p ∧ b)`; four choices of verifying sets,
closed by the three refutations between them (none of the three does alone) -/
section Example
def exCert : List Cond := [⟨.atom 2, .atom 0, 1⟩, ⟨.neg (.atom 2), .atom 1, 2⟩, ⟨.atom 0, .atom 1, 3⟩]
def exCertQ : Cond := ⟨.neg (.atom 2), .and (.atom 1) (.atom 0), 0⟩
def exCertPool : List CLeaf := [⟨[[0], [1], [1]], [1]⟩, ⟨[[0], [1], [1]], [0]⟩, ⟨[[0], [1], [0]], [1]⟩]
example : exCert.Nodup := by decide +kernel
theorem exCert_accepted : cCertCheck (allWorlds 3) exCert exCertQ exCertPool = true := by decide +kernel
example : cCertCheck (allWorlds 3) exCert exCertQ exCertPool = true := exCert_accepted
example : specC (allWorlds 3) exCert exCertQ :=
  C05_cert_sound _ _ (by decide) _ exCertPool exCert_accepted
example : cCertCheck (allWorlds 3) exCert ⟨.atom 2, .atom 1, 0⟩ [] = false := by decide +kernel
end Example

end InfOCF
