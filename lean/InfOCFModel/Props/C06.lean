import InfOCFModel.Props.C01
import InfOCFModel.Diag
/-!
# C06  Consistency verdicts and tolerance partitions are exact
-/
namespace InfOCF

/-- **inconsistency is reported exactly when no tolerance partition exists** (strict mode) -/
theorem C06_none_iff (Ω : List World) (D : List Cond) :
    partS Ω D = none ↔ ¬ HasTolPart Ω D :=
  tolPart_none_iff Ω D D.length (Nat.le_refl _)

/-- **the strict result is the greedy maximal partition**: each layer consists of *all* remaining
conditionals tolerated by the remaining ones, nothing is left over -/
theorem C06_greedy (Ω : List World) (D : List Cond) (P : List (List Cond)) :
    partS Ω D = some P ↔ GreedyRun Ω D P [] :=
  tolPart_iff_run Ω D.length D P (Nat.le_refl _)

/-- membership in a layer, in the property's words -/
theorem C06_layer_spec (Ω : List World) (cs : List Cond) (c : Cond) :
    c ∈ cs.filter (tolerated Ω cs) ↔ c ∈ cs ∧ Tol Ω cs c := by
  simp [List.mem_filter, tolerated_iff]

/-- **uniqueness** -/
theorem C06_unique (Ω : List World) (D : List Cond) (P P' : List (List Cond))
    (h : GreedyRun Ω D P []) (h' : GreedyRun Ω D P' []) : P = P' :=
  (GreedyRun_det h h' (NoneTol_nil Ω) (NoneTol_nil Ω)).1

/-- **extended mode**: the result is the greedy layers followed by the layer of never-tolerated
conditionals, accepted iff that layer is empty or some world falsifies none of its members -/
theorem C06_ext (Ω : List World) (D : List Cond) (P : List (List Cond)) :
    partE Ω D = some P ↔
      ∃ fin rem, P = fin ++ [rem] ∧ GreedyRun Ω D fin rem ∧ NoneTol Ω rem ∧
        (rem = [] ∨ ∃ w ∈ Ω, nofal rem w = true) :=
  tolPartExt_iff_run Ω (D.length + 1) D P (Nat.le_succ _)

theorem partE_run {Ω : List World} {D : List Cond} {fin : List (List Cond)} {inf : List Cond}
    (hP : partE Ω D = some (fin ++ [inf])) : GreedyRun Ω D fin inf ∧ NoneTol Ω inf := by
  obtain ⟨fin0, inf0, heq, hrun, hn, _⟩ := (C06_ext Ω D _).mp hP
  obtain ⟨rfl, rfl⟩ := List.append_singleton_inj.mp heq
  exact ⟨hrun, hn⟩

/-- **extended rejection**: the base is rejected exactly when the never-tolerated remainder is
non-empty and every world falsifies one of its members -/
theorem C06_ext_reject (Ω : List World) (D : List Cond) :
    partE Ω D = none ↔
      ∃ fin rem, GreedyRun Ω D fin rem ∧ NoneTol Ω rem ∧ rem ≠ [] ∧
        ∀ w ∈ Ω, ∃ c ∈ rem, c.fal w = true := by
  -- the acceptance test of `tolPartExt` on the remainder fails
  have key : ∀ rem : List Cond, (rem.isEmpty || Ω.any (nofal rem)) = false ↔
      rem ≠ [] ∧ ∀ w ∈ Ω, ∃ c ∈ rem, c.fal w = true := fun rem => by
    rw [Bool.or_eq_false_iff, List.isEmpty_eq_false_iff, List.any_eq_false]
    refine and_congr_right fun _ => forall₂_congr fun w _ => ?_
    rw [Bool.not_eq_true, nofal_eq_not_any, Bool.not_eq_false', List.any_eq_true]
  constructor
  · intro h
    obtain ⟨fin, rem, hrun, hn⟩ := GreedyRun_exists Ω D
    rw [partE, tolPartExt_of_run hrun hn (Nat.le_succ _)] at h
    refine ⟨fin, rem, hrun, hn, (key rem).mp ?_⟩
    -- `h : (if test then some _ else none) = none`
    cases ht : rem.isEmpty || Ω.any (nofal rem)
    · rfl
    · rw [ht] at h; cases h
  · rintro ⟨fin, rem, hrun, hn, hr⟩
    rw [partE, tolPartExt_of_run hrun hn (Nat.le_succ _), (key rem).mpr hr]; rfl

/-- on strongly consistent bases the extended partition is the strict one plus an empty last layer -/
theorem C06_ext_strict (Ω : List World) (D : List Cond) (P : List (List Cond)) :
    partS Ω D = some P ↔ partE Ω D = some (P ++ [[]]) := by
  rw [C06_greedy, C06_ext]
  constructor
  · intro h; exact ⟨P, [], rfl, h, NoneTol_nil Ω, Or.inl rfl⟩
  · rintro ⟨fin, rem, heq, hrun, _, _⟩
    obtain ⟨rfl, h2⟩ := List.append_inj' heq rfl
    cases h2
    exact hrun

/-- the diagnostics' short cut: "consistent" read off the extended run (last layer empty) is the
strict verdict -/
theorem C06_last_empty_iff (Ω : List World) (D : List Cond) (P : List (List Cond))
    (hP : partE Ω D = some P) : (lastSize P == 0) = (partS Ω D).isSome := by
  obtain ⟨fin, rem, rfl, hrun, -, -⟩ := (C06_ext Ω D P).mp hP
  rw [lastSize, List.getLastD_concat]
  cases rem with
  | nil => rw [(C06_greedy Ω D fin).mpr hrun]; rfl
  | cons c t =>
    cases hs : partS Ω D with
    | none => rfl
    | some P' =>
      -- the extended result would end in an empty layer
      have h' := hP.symm.trans ((C06_ext_strict Ω D P').mp hs)
      cases (List.append_inj' (Option.some.inj h') rfl).2

theorem C06_partE_none_partS (Ω : List World) (D : List Cond) (h : partE Ω D = none) : partS Ω D = none := by
  cases hs : partS Ω D with
  | none => rfl
  | some P => rw [(C06_ext_strict Ω D P).mp hs] at h; cases h

/-- **every diagnostics flag equals its definition** -/
theorem C06_diag (ext usesFacts : Bool) (Ω : List World) (D : List Cond) (facts : List Fm) :
    diagCode ext usesFacts Ω D facts = diagSpec ext usesFacts Ω D facts := by
  cases ext
  · cases usesFacts <;> rfl
  · -- the two differ in the flag read off the extended run
    have hbb : (match partE Ω D with | none => some false | some P => some (lastSize P == 0)) =
        some (partS Ω D).isSome := by
      cases hp : partE Ω D with
      | none => rw [C06_partE_none_partS Ω D hp]; rfl
      | some P => exact congrArg some (C06_last_empty_iff Ω D P hp)
    show Diag.mk _ _ _ _ _ = Diag.mk _ _ _ _ _
    congr 1  -- the fields agree by `rfl`, except the one that is `hbb`

/-- the conditionals `(⊥|¬φ)` added for facts always land in the infinity layer -/
theorem C06_facts_in_infinity (Ω : List World) (D : List Cond) (facts : List Fm) (P : List (List Cond))
    (hP : partE Ω (augment D facts) = some P) :
    ∀ c ∈ augment D facts, c.cons = .bot → c ∈ P.getLastD [] := by
  intro c hc hbot
  obtain ⟨fin, rem, rfl, hrun, _, _⟩ := (C06_ext Ω _ P).mp hP
  rw [List.getLastD_concat]
  exact GreedyRun_unverifiable hrun c hc fun w _ => by rw [Cond.ver, hbot]; exact Bool.and_false _

/-- refusal of every operator model: empty base, or no partition for the selected mode -/
theorem C06_refusal (weakly : Bool) (Ω : List World) (D : List Cond) (q : Cond)
    (body : List (List Cond) → List World → Bool) :
    (D = [] → wrap weakly Ω D q body = .refuseEmpty) ∧
    (D ≠ [] → partFor weakly Ω D = none → wrap weakly Ω D q body = .refuseIncons) ∧
    (D ≠ [] → (partFor weakly Ω D).isSome → ∃ b, wrap weakly Ω D q body = .val b) := by
  have h := wrap_refuse weakly Ω D q body
  refine ⟨h.1, h.2, fun hD hP => ?_⟩
  obtain ⟨P, hP⟩ := Option.isSome_iff_exists.mp hP
  exact ⟨_, wrap_some _ hD hP⟩

section Example
-- a base that is only weakly consistent: (b|a) and the unverifiable (⊥|a ∧ ¬b)
def exC06 : List Cond := [⟨.atom 1, .atom 0, 1⟩, ⟨.bot, .and (.atom 0) (.neg (.atom 1)), 2⟩]
example : partS (allWorlds 2) exC06 = none := by decide +kernel
example : ∃ P, partE (allWorlds 2) exC06 = some P ∧ lastSize P = 1 := by decide +kernel
example : partE (allWorlds 1) [⟨.bot, .top, 1⟩] = none := by decide +kernel
end Example

end InfOCF
