import InfOCFModel.Props.C06
/-!
# C07 (p-entailment, extended mode)

`algPExt` is `PEntailment._inference` with `weakly=True`: the extended partition of `D ∪ {(¬B|A)}` is
computed and the query holds iff `A` is unsatisfiable together with the non-falsification of the last
layer. `specPExt` is the property's case distinction over the feasible worlds `Ωf` of `D`. The algorithm is the strict
test on the finite layers over `Ωf`, behind the short cut (`algPExt_eq_strict`); this gives each case of `specPExt`
(`C07_P`) and, with `tolNone_iff_models`, the ranking-model form of the operator (`C07_P_models`). The key fact is that
the never-tolerated remainder of a greedy run is the *greatest self-intolerant subset* (`GreedyRun_max`): so the remainder
of the extended run on `D ∪ {(¬B|A)}` is the infinity layer of `D` with the remainder of the strict run over `Ωf`
(`GreedyRun_rem_feasible`).
-/
namespace InfOCF

theorem tolerated_feasible (Ω : List World) (inf S : List Cond) (c : Cond) :
    tolerated (feasible Ω inf) S c = tolerated Ω (S ++ inf) c := by
  simp only [tolerated, feasible, List.any_filter, nofal_append]
  congr 1; funext w
  rw [Bool.and_comm, Bool.and_assoc]

/-- the remainder of a run in two stages. Used with `cs = D ∪ {(¬B|A)}`, `inf` the infinity layer of `D` and
`E = fin ∪ {(¬B|A)}`. -/
theorem GreedyRun_rem_feasible {Ω : List World} {inf E cs rem' T : List Cond} {fin' finF : List (List Cond)}
    (hcs : ∀ c, c ∈ cs ↔ (c ∈ E ∨ c ∈ inf)) (hinf : NoneTol Ω inf)
    (hrun : GreedyRun Ω cs fin' rem') (hrem' : NoneTol Ω rem')
    (hF : GreedyRun (feasible Ω inf) E finF T) (hT : NoneTol (feasible Ω inf) T) :
    ∀ c, c ∈ rem' ↔ (c ∈ inf ∨ c ∈ T) := by
  -- `T ∪ inf` lies in `cs` and is self-intolerant over `Ω`
  have hback : ∀ c ∈ T ++ inf, c ∈ rem' := by
    refine GreedyRun_max Ω fin' cs rem' (T ++ inf) hrun (fun d hd => ?_) (fun d hd => ?_)
    · exact (hcs d).mpr ((List.mem_append.mp hd).imp_left (GreedyRun_rem_sub hF d))
    · rcases List.mem_append.mp hd with h | h
      · rw [← tolerated_feasible]; exact NoneTol_iff.mp hT d h
      · exact tolerated_false_mono (NoneTol_iff.mp hinf d h) fun e he => List.mem_append_right _ he
  refine fun c => ⟨fun hc => ?_, fun hc => hback c (List.mem_append.mpr hc.symm)⟩
  by_cases hci : c ∈ inf
  · exact Or.inl hci
  · -- `U = rem' \ inf` lies in `E` and is self-intolerant over the feasible worlds
    let U := rem'.filter fun d => decide (d ∉ inf)
    have hU : ∀ d, d ∈ U ↔ d ∈ rem' ∧ d ∉ inf := fun d => by simp only [U, List.mem_filter, decide_eq_true_eq]
    refine Or.inr (GreedyRun_max _ finF E T U hF (fun d hd => ?_) (fun d hd => ?_) c ((hU c).mpr ⟨hc, hci⟩))
    · exact ((hcs d).mp (GreedyRun_rem_sub hrun d ((hU d).mp hd).1)).resolve_right ((hU d).mp hd).2
    · rw [tolerated_feasible]
      refine tolerated_false_mono (NoneTol_iff.mp hrem' d ((hU d).mp hd).1) fun e he => ?_
      by_cases hei : e ∈ inf
      · exact List.mem_append_right _ hei
      · exact List.mem_append_left _ ((hU e).mpr ⟨he, hei⟩)

theorem algPExt_iff_rem {Ω : List World} {D : List Cond} {q : Cond} {fin' : List (List Cond)} {rem' : List Cond}
    (hrun : GreedyRun Ω (D ++ [negq q]) fin' rem') (hn : NoneTol Ω rem') :
    algPExt Ω D q = true ↔ ∀ w ∈ Ω, q.ante.eval w = true → nofal rem' w = false := by
  rw [algPExt, tolPartExt_of_run hrun hn (by rw [List.length_append]; exact Nat.le_succ _)]
  cases ht : rem'.isEmpty || Ω.any (nofal rem')
  · -- refused: every world falsifies a member of `rem'`
    have := List.any_eq_false.mp (Bool.or_eq_false_iff.mp ht).2
    exact iff_of_true rfl fun w hw _ => Bool.eq_false_iff.mpr (this w hw)
  · -- accepted: the last layer is `rem'`
    simp only [if_pos, List.getLastD_concat, Bool.not_eq_true', List.any_eq_false, Bool.and_eq_true, not_and,
      Bool.not_eq_true]

/-- the extended test is the strict test on the finite layers over the feasible worlds, behind the short cut for a
query that no feasible world falsifies -/
theorem algPExt_eq_strict {Ω : List World} {D : List Cond} {fin : List (List Cond)} {inf : List Cond}
    (hD : GreedyRun Ω D fin inf) (hinf : NoneTol Ω inf) (q : Cond) {fuel : Nat}
    (hlen : (fin.flatten ++ [negq q]).length ≤ fuel) :
    algPExt Ω D q = (!((feasible Ω inf).any q.fal) ||
      (tolPart (feasible Ω inf) fuel (fin.flatten ++ [negq q])).isNone) := by
  obtain ⟨fin', rem', hD', hrem'⟩ := GreedyRun_exists Ω (D ++ [negq q])
  obtain ⟨finF, T, hF, hT⟩ := GreedyRun_exists (feasible Ω inf) (fin.flatten ++ [negq q])
  have hrem := GreedyRun_rem_feasible (E := fin.flatten ++ [negq q])
    (fun c => by rw [List.mem_append, List.mem_append, GreedyRun_mem hD c, or_right_comm])
    hinf hD' hrem' hF hT
  have hnf : ∀ w, nofal rem' w = true ↔ nofal inf w = true ∧ nofal T w = true := fun w => by
    simp only [nofal_iff_forall, hrem, or_imp, forall_and]
  -- the last layer is `inf ∪ T`: the algorithm asks whether every feasible world satisfying `A` falsifies a member of `T`
  rw [tolPart_of_run hF hT hlen, Bool.eq_iff_iff, algPExt_iff_rem hD' hrem', Bool.or_eq_true, Bool.not_eq_true',
    List.any_eq_false]
  constructor
  · intro h
    cases T with
    | cons _ _ => exact Or.inr rfl
    | nil => -- a feasible falsifying world would falsify no member of the last layer
      exact Or.inl fun w hw hf => ne_true_of_eq_false (h w (mem_feasible.mp hw).1 (Cond.ante_of_fal hf))
        ((hnf w).mpr ⟨(mem_feasible.mp hw).2, rfl⟩)
  · intro h w hw ha
    refine Bool.eq_false_iff.mpr fun hnf' => ?_
    obtain ⟨hwi, hwT⟩ := (hnf w).mp hnf'
    have hnq : negq q ∈ T := by
      rcases h with hno | hne
      · -- never verified over the feasible worlds
        exact GreedyRun_unverifiable hF _ (mem_concat_iff.mpr (Or.inl rfl)) fun w hw => by
          rw [negq_ver]; exact Bool.eq_false_iff.mpr (hno w hw)
      · -- `T` is stuck, and the finite layers, having a tolerance partition, hold no stuck set
        have hne : T ≠ [] := by rintro rfl; cases hne
        exact Classical.byContradiction fun hnq =>
          stuck_no_part _ T (hT.stuck hne) fin (GreedyRun_isTolPart hD) fun c hc =>
            (mem_concat_iff.mp (GreedyRun_rem_sub hF c hc)).resolve_left fun h => hnq (h ▸ hc)
    -- `w` falsifies no member of `T`, so it verifies `(¬B|A)` and tolerates it
    exact ne_true_of_eq_false (NoneTol_iff.mp hT _ hnq) <| tolerated_iff.mpr
      ⟨w, mem_feasible.mpr ⟨hw, hwi⟩, (ver_or_fal (negq q) ha).resolve_right
        (Bool.eq_false_iff.mp (nofal_iff_forall.mp hwT _ hnq)), nofal_iff_forall.mp hwT⟩

/-- **C07 (extended p-entailment)**: on every weakly consistent base and every query, the extended p-entailment
algorithm computes exactly the property's case distinction over the feasible worlds -/
theorem C07_P (Ω : List World) (D : List Cond) (q : Cond) (fin : List (List Cond)) (inf : List Cond)
    (hP : partE Ω D = some (fin ++ [inf])) :
    some (algPExt Ω D q) = specPExt Ω D q := by
  have hD := (partE_run hP).1
  have hlen : (fin.flatten ++ [negq q]).length ≤ D.length + 2 := by
    rw [List.length_append, ← (GreedyRun_perm hD).length_eq, List.length_append]
    exact Nat.add_le_add (Nat.le_add_right _ _) (Nat.le_succ 1)
  rw [specPExt, show tolPartExt Ω (D.length + 1) D = some (fin ++ [inf]) from hP]
  simp only [List.getLastD_concat, List.dropLast_concat]
  rw [← feasible, algPExt_eq_strict hD (partE_run hP).2 q hlen]
  cases hf : (feasible Ω inf).any q.fal with
  | false => cases (feasible Ω inf).any fun w => q.ante.eval w <;> rfl
  | true =>
    obtain ⟨w', hw', hf'⟩ := List.any_eq_true.mp hf
    rw [show ((feasible Ω inf).any fun w => q.ante.eval w) = true from
      List.any_eq_true.mpr ⟨w', hw', Cond.ante_of_fal hf'⟩]
    cases hv : (feasible Ω inf).any q.ver with
    | true => rfl
    | false =>
      -- a falsifying world but no verifying one: not entailed in the Z-ranking, which is a model
      refine congrArg some (Bool.eq_false_iff.mpr fun h => ?_)
      have key := tolNone_iff_models (feasible Ω inf) hlen fun _ => mem_concat_iff
      rw [hf] at key
      obtain ⟨w, hw, hvw, _⟩ := prefEnt_iff.mp
        (key.mp h _ (zrk_models _ fin (GreedyRun_isTolPart hD))) w' hw' hf'
      exact ne_true_of_eq_false hv (List.any_eq_true.mpr ⟨w, hw, hvw⟩)

/-- at the level of the operator a user calls -/
theorem C07_P_ans (Ω : List World) (D : List Cond) (q : Cond) (fin : List (List Cond)) (inf : List Cond)
    (hD : D ≠ []) (hP : partE Ω D = some (fin ++ [inf])) :
    ∃ b, specPExt Ω D q = some b ∧ ansP true Ω D q = .val (trivialQ Ω q || b) := by
  refine ⟨algPExt Ω D q, (C07_P Ω D q fin inf hP).symm, ?_⟩
  rw [ansP, wrap_some true hD hP, ← trivialQ_eq]; rfl

/-- **extended p-entailment in terms of ranking models** (the extended-mode counterpart of `C01_prefEnt`): the
operator answers True iff every ranking model of the finite layers over the feasible worlds preferentially
entails the query; the wrapper's short cut is the case that no world at all falsifies the query -/
theorem C07_P_models (Ω : List World) (D : List Cond) (q : Cond) (fin : List (List Cond)) (inf : List Cond)
    (hD : D ≠ []) (hP : partE Ω D = some (fin ++ [inf])) :
    ansP true Ω D q = .val true ↔ ∀ κ : World → Nat, Models (feasible Ω inf) κ fin.flatten →
      prefEnt (feasible Ω inf) (fun w w' => κ w < κ w') q = true := by
  rw [ansP, wrap_some true hD hP, Out.val.injEq, bodyP, if_pos rfl,
    algPExt_eq_strict (partE_run hP).1 (partE_run hP).2 q (Nat.le_refl _),
    ← tolNone_iff_models _ (Nat.le_refl _) fun _ => mem_concat_iff]
  -- without a falsifying world there is no feasible one either
  cases hf : Ω.any q.fal
  · rw [any_fal_feasible_false inf hf]; exact iff_of_true rfl rfl
  · exact Iff.rfl

end InfOCF
