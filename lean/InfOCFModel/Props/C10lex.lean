import InfOCFModel.Lexer
/-!
# C10, lexer level: the lexer model reads back what `unlexChars` writes

`unlexChars ts` writes every token followed by one blank, so one step (`lexFuel_tok`) reads the characters of a printable
token (`PTok`: identifiers are valid and not keywords) and the blank, emits exactly that token and continues behind the blank.
-/
namespace InfOCF

def ValidId (s : String) : Prop :=
  ∃ c a, s.toList = c :: a ∧ isIdStart c = true ∧ ∀ x ∈ a, isIdChar x = true

def AtomName (s : String) : Prop :=
  ValidId s ∧ s ≠ "signature" ∧ s ≠ "conditionals" ∧ s ≠ "Top" ∧ s ≠ "Bottom"

instance (s : String) : Decidable (ValidId s) :=
  match h : s.toList with
  | [] => isFalse (by rintro ⟨c, a, e, _⟩; rw [h] at e; cases e)
  | c :: a => decidable_of_iff (isIdStart c = true ∧ ∀ x ∈ a, isIdChar x = true)
      ⟨fun ⟨h1, h2⟩ => ⟨c, a, h, h1, h2⟩, by rintro ⟨c', a', e, h1, h2⟩; rw [h] at e; cases e; exact ⟨h1, h2⟩⟩

instance (s : String) : Decidable (AtomName s) := by unfold AtomName; infer_instance

def FTok : LTok → Prop
  | .id s => ValidId s ∧ s ≠ "signature" ∧ s ≠ "conditionals"
  | .comma | .semi | .not | .lpar | .rpar => True
  | _ => False

def PTok : LTok → Prop
  | .id s => ValidId s ∧ s ≠ "signature" ∧ s ≠ "conditionals"
  | _ => True

theorem FTok.toPTok {t : LTok} (h : FTok t) : PTok t := by
  cases t <;> first | exact h | trivial

theorem AtomName.toFTok {s : String} (h : AtomName s) : FTok (.id s) := ⟨h.1, h.2.1, h.2.2.1⟩

theorem alpha_ne {c x : Char} (hc : c.isAlpha = true) (hx : x.isAlpha = false) : (c == x) = false := by
  rw [beq_eq_false_iff_ne]; rintro rfl; rw [hx] at hc; cases hc

theorem takeId_stop (a R : List Char) (h : ∀ x ∈ a, isIdChar x = true) : takeId (a ++ ' ' :: R) = (a, ' ' :: R) := by
  induction a with
  | nil => rfl
  | cons x t ih => rw [List.forall_mem_cons] at h; simp [takeId, h.1, ih h.2]

theorem lexFuel_tok (fuel : Nat) (t : LTok) (R : List Char) (ht : PTok t) :
    lexFuel (fuel + 2) (tokChars t ++ ' ' :: R) = (lexFuel fuel R).map (t :: ·) := by
  cases t with
  | id s =>
    obtain ⟨⟨c, a, hca, hc, ha⟩, h1, h2⟩ := ht
    rw [tokChars, hca, List.cons_append, lexFuel.eq_def]
    -- an identifier starts with a letter, and none of the thirteen special characters of the lexer is a letter
    simp (disch := decide) only [alpha_ne hc, takeId_stop a R ha, hc, ← hca, String.ofList_toList, beq_iff_eq, h1, h2,
      Bool.or_self, Bool.false_eq_true, ↓reduceIte]
    rfl
  | _ => rfl

theorem tokChars_pos (t : LTok) (ht : PTok t) : 0 < (tokChars t).length := by
  cases t with
  | id s => obtain ⟨c, a, hca, _⟩ := ht.1; rw [tokChars, hca]; exact Nat.zero_lt_succ _
  | _ => exact Nat.zero_lt_succ _

/-- **the lexer model reads back every printable token list** (all token kinds of the grammar) -/
theorem lex_unlex_all : ∀ (ts : List LTok), (∀ t ∈ ts, PTok t) → ∀ fuel, (unlexChars ts).length < fuel →
    lexFuel fuel (unlexChars ts) = some ts := by
  intro ts
  induction ts with
  | nil => intro _ fuel _; cases fuel <;> rfl
  | cons t r ih =>
    intro h fuel hf
    rw [List.forall_mem_cons] at h
    have hpos := tokChars_pos t h.1
    simp only [unlexChars, List.length_append, List.length_cons] at hf
    obtain ⟨f, rfl⟩ := Nat.exists_eq_add_of_le' (show 2 ≤ fuel by omega)
    rw [unlexChars, lexFuel_tok f t _ h.1, ih h.2 f (by omega)]
    rfl

/-- **the lexer model reads back what `unlexChars` writes** -/
theorem lex_unlex : ∀ (ts : List LTok), (∀ t ∈ ts, FTok t) → ∀ fuel, (unlexChars ts).length < fuel →
    lexFuel fuel (unlexChars ts) = some ts :=
  fun ts h => lex_unlex_all ts fun t ht => (h t ht).toPTok

/-- A string literal is `String.ofList` of its characters by `rfl`; rewriting
with this first spares the kernel the UTF-8 decoding inside `String.toList`, which is most of what evaluating `lex` on a
literal costs. -/
theorem lex_ofList (l : List Char) : lex (String.ofList l) = lexFuel (l.length + 1) l := by
  rw [lex, String.toList_ofList, String.length_ofList]

theorem lex_unlexChars (ts : List LTok) (h : ∀ t ∈ ts, PTok t) : lex (String.ofList (unlexChars ts)) = some ts :=
  (lex_ofList _).trans (lex_unlex_all ts h _ (Nat.lt_succ_self _))

end InfOCF
