import InfOCFModel.Props.Common
/-!
# C01  p-entailment answers equal the definition on every consistent base (strict mode)
-/
namespace InfOCF

def HasTolPart (Ω : List World) (cs : List Cond) : Prop :=
  ∃ P, IsTolPart Ω P ∧ ∀ c, c ∈ P.flatten ↔ c ∈ cs

theorem tolPart_none_iff (Ω : List World) (cs : List Cond) (fuel : Nat) (hf : cs.length ≤ fuel) :
    tolPart Ω fuel cs = none ↔ ¬ HasTolPart Ω cs := by
  constructor
  · intro h ⟨P, hP, hmem⟩
    obtain ⟨S, hsub, hS⟩ := tolPart_none_stuck Ω fuel cs hf h
    exact stuck_no_part Ω S hS P hP (fun c hc => (hmem c).mpr (hsub c hc))
  · intro h
    cases hp : tolPart Ω fuel cs with
    | none => rfl
    | some P => exact absurd ⟨P, tolPart_sound Ω fuel cs P hp⟩ h

/-- **C01 (partition form)**: p-entailment answers True exactly when the query is short-cut or
`D ∪ {(¬B|A)}` admits no tolerance partition. -/
theorem C01_partition (Ω : List World) (D : List Cond) (q : Cond) (P : List (List Cond))
    (hD : D ≠ []) (hP : partS Ω D = some P) :
    ∃ b, ansP false Ω D q = .val b ∧
      (b = true ↔ (trivialQ Ω q = true ∨ ¬ HasTolPart Ω (negq q :: D))) := by
  refine ⟨_, wrap_some false hD hP, ?_⟩
  rw [← trivialQ_eq, Bool.or_eq_true, bodyP, if_neg Bool.false_ne_true, Option.isNone_iff_eq_none,
    tolPart_none_iff Ω (negq q :: D) (D.length + 1) (Nat.le_refl _)]

/-- short-cut queries are answered True -/
theorem C01_trivial (Ω : List World) (D : List Cond) (q : Cond) (P : List (List Cond))
    (hD : D ≠ []) (hP : partS Ω D = some P) (ht : trivialQ Ω q = true) :
    ansP false Ω D q = .val true := by
  rw [ansP, wrap_some false hD hP, ← trivialQ_eq, ht]; rfl

/-- the strict test behind the wrapper's short cut, over any world list `H`; `cs` holds `(¬B|A)` and the members of `E`.
Strict p-entailment is the instance `H = Ω`, `E = D`; extended p-entailment the one over the feasible worlds and the
finite layers (`C07P.lean`). -/
theorem tolNone_iff_models (H : List World) {E cs : List Cond} {q : Cond} {fuel : Nat} (hlen : cs.length ≤ fuel)
    (hcs : ∀ c, c ∈ cs ↔ (c = negq q ∨ c ∈ E)) :
    (!(H.any q.fal) || (tolPart H fuel cs).isNone) = true ↔
      ∀ κ : World → Nat, Models H κ E → prefEnt H (fun w w' => κ w < κ w') q = true := by
  cases hf : H.any q.fal
  · exact iff_of_true rfl fun κ _ => all_filter_of_any_false _ hf
  · obtain ⟨w, hw, hfw⟩ := List.any_eq_true.mp hf
    have hA : ∃ w ∈ H, q.ante.eval w = true := ⟨w, hw, Cond.ante_of_fal hfw⟩
    rw [Bool.not_true, Bool.false_or, Option.isNone_iff_eq_none]
    constructor
    · -- a failed partition leaves a stuck subset, which forces acceptance
      intro hnone κ hκ
      obtain ⟨S, hsub, hS⟩ := tolPart_none_stuck H fuel cs hlen hnone
      exact (accepts_iff_prefEnt H κ q hA).mp
        (stuck_models_accept H E q S hS (fun c hc => (hcs c).mp (hsub c hc)) hA κ hκ)
    · intro h
      cases hp : tolPart H fuel cs with
      | none => rfl
      | some P =>
        -- the Z-ranking of a partition is a model of `E` that does not accept `(B|A)`
        obtain ⟨h1, h2⟩ := tolPart_sound H fuel cs P hp
        have := part_gives_countermodel H E q P h1 (fun c => (h2 c).trans (hcs c))
        exact absurd ((accepts_iff_prefEnt H _ q hA).mpr (h _ this.1)) this.2

/-- **C01 (ranking-model form)**: p-entailment answers True exactly when every ranking model of `D` preferentially
entails the query; the wrapper's short cut is the case that no world falsifies it -/
theorem C01_prefEnt (Ω : List World) (D : List Cond) (q : Cond) (P : List (List Cond))
    (hD : D ≠ []) (hP : partS Ω D = some P) :
    ansP false Ω D q = .val true ↔ ∀ κ : World → Nat, Models Ω κ D →
      prefEnt Ω (fun w w' => κ w < κ w') q = true := by
  rw [ansP, wrap_some false hD hP, Out.val.injEq]
  exact tolNone_iff_models Ω (Nat.le_refl _) fun c => List.mem_cons

/-- … for a query with satisfiable antecedent: exactly when every ranking model of `D` accepts the query -/
theorem C01_models (Ω : List World) (D : List Cond) (q : Cond) (P : List (List Cond))
    (hD : D ≠ []) (hP : partS Ω D = some P) (hA : ∃ w ∈ Ω, q.ante.eval w = true) :
    ansP false Ω D q = .val true ↔ ∀ κ : World → Nat, Models Ω κ D → Accepts Ω κ q :=
  (C01_prefEnt Ω D q P hD hP).trans
    (forall_congr' fun κ => imp_congr_right fun _ => (accepts_iff_prefEnt Ω κ q hA).symm)

/-- atoms outside the signature: evaluation only looks at the atoms that occur, so adding
unused atoms (longer worlds) changes no verification/falsification behaviour -/
theorem C01_eval_ext (f : Fm) (w ext : World) (h : ∀ i, f.mentions i = true → i < w.length) :
    f.eval (w ++ ext) = f.eval w := by
  induction f with
  | top => rfl
  | bot => rfl
  | atom i => exact congrArg (·.getD false) (List.getElem?_append_left (h i (beq_self_eq_true i)))
  | neg a ih => exact congrArg (!·) (ih h)
  | and a b iha ihb =>
    rw [Fm.eval, iha fun i hi => h i (Bool.or_eq_true_iff.mpr (.inl hi)),
      ihb fun i hi => h i (Bool.or_eq_true_iff.mpr (.inr hi))]; rfl
  | or a b iha ihb =>
    rw [Fm.eval, iha fun i hi => h i (Bool.or_eq_true_iff.mpr (.inl hi)),
      ihb fun i hi => h i (Bool.or_eq_true_iff.mpr (.inr hi))]; rfl

theorem C01_refuse (Ω : List World) (D : List Cond) (q : Cond) :
    (D = [] → ansP false Ω D q = .refuseEmpty) ∧
    (D ≠ [] → partS Ω D = none → ansP false Ω D q = .refuseIncons) :=
  wrap_refuse false Ω D q _

/-! non-vacuity: penguin base, a p-entailed and a non-entailed query, a world satisfying the first one's antecedent -/
section Example
def exP_D : List Cond := [⟨.atom 2, .atom 0, 1⟩, ⟨.neg (.atom 2), .atom 1, 2⟩, ⟨.atom 0, .atom 1, 3⟩]
example : (partS (allWorlds 3) exP_D).isSome = true := by decide +kernel
example : ansP false (allWorlds 3) exP_D ⟨.neg (.atom 2), .and (.atom 1) (.atom 0), 0⟩ = .val true := by decide +kernel
example : ansP false (allWorlds 3) exP_D ⟨.atom 1, .atom 0, 0⟩ = .val false := by decide +kernel
example : ∃ w ∈ allWorlds 3, (Fm.and (.atom 1) (.atom 0)).eval w = true := by decide +kernel
end Example

end InfOCF
