import InfOCFModel.Cnf
import InfOCFModel.Mcs
import InfOCFModel.RemoveSup
import InfOCFModel.Tol
/-!
# C15  CNF encodings are faithful and correction-set enumeration is exact

* z3's `tseitin-cnf` tactic is **not** modelled. Its output is validated per instance: the real clause
  lists go through the executable checker `cnfFaithfulB`, which `C15_cnf_check_sound` proves to
  decide faithfulness (`CnfFaithful`) — every total assignment to the atoms is extendable to a model
  of the clauses exactly when it verifies / falsifies / does not falsify the conditional.
* `get_violated_conditional` with its early exit is exact (`C15_getViolated_exact`).
* For **every** MaxSAT oracle that returns some unblocked feasible world (or `none` iff there is
  none), the blocking loop followed by `remove_supersets` returns exactly the inclusion-minimal
  falsification sets, each once, and nothing when the hard clauses are unsatisfiable
  (`C15_loop_exact`).
-/
namespace InfOCF

theorem C15_cnf_check_sound (n aux : Nat) (F : CNF) (sem : World → Bool) :
    cnfFaithfulB n aux F sem = true ↔ CnfFaithful n aux F sem :=
  cnfFaithful_check_sound n aux F sem

/-- with a faithful non-falsification encoding, a world that falsifies the conditional violates a
clause of it under *every* assignment to the auxiliaries (so its key is reported) -/
theorem C15_falsified_violated (n aux : Nat) (F : CNF) (c : Cond)
    (hF : CnfFaithful n aux F (fun w => !(c.fal w))) (w a : List Bool) (hw : w.length = n) (ha : a.length = aux)
    (hf : c.fal w = true) : cnfSat (w ++ a) F = false := by
  cases h : cnfSat (w ++ a) F with
  | false => rfl
  | true =>
    have := (hF w (mem_allWorlds.mpr hw)).mp ⟨a, mem_allWorlds.mpr ha, h⟩
    simp [hf] at this

/-- **`get_violated_conditional` is exact** whenever the reported cost is at least the number of
violated clauses among the scanned (non-ignored) conditionals — which holds for an RC2 model, whose
cost counts every violated soft clause: it returns exactly the non-ignored keys having an unsatisfied clause -/
theorem C15_getViolated_exact (model : List Int) (cost : Nat) (ignore : List Nat) (dict : List (Nat × CNF))
    (hcost : violatedCount model (flatClauses ignore dict) ≤ cost) (k : Nat) :
    k ∈ getViolated model cost ignore dict ↔
      ∃ p ∈ flatClauses ignore dict, p.1 = k ∧ clauseViolated model p.2 = true := by
  unfold getViolated
  split
  · next h0 =>
    have hz := violatedCount_eq_zero.mp (Nat.le_zero.mp (h0 ▸ hcost))
    exact ⟨(nomatch ·), by rintro ⟨p, hp, -, hpv⟩; exact absurd hpv (hz p hp)⟩
  · rw [violatedScan_mem model cost _ 0 [] (by rwa [Nat.zero_add]) k]
    exact ⟨(·.resolve_left (nomatch ·)), Or.inr⟩

/-- **the enumeration is exact** for every oracle meeting the contract -/
theorem C15_loop_exact {L : List Cond} {H : List World} (hL : L.Nodup) (o : Oracle L H) :
    let R := removeSupersets (enumLoop o (unblockedCount L H [] + 1) [])
    (∀ s, s ∈ R ↔ s ∈ famMin L H) ∧ R.Pairwise (· ≠ ·) ∧ (H = [] → R = []) := by
  intro R
  obtain ⟨hreal, hcov⟩ := enumLoop_spec o (unblockedCount L H [] + 1) [] (Nat.lt_succ_self _) (List.forall_mem_nil _)
  have hnd : ∀ s ∈ enumLoop o (unblockedCount L H [] + 1) [], s.Nodup := fun s hs => by
    obtain ⟨w, _, rfl⟩ := hreal s hs; exact fset_nodup hL w
  obtain ⟨h1, -, h3⟩ := removeSupersets_spec _ hnd
  refine ⟨fun s => ?_, h3.imp fun h hab => ?_, fun hH => List.eq_nil_iff_forall_not_mem.mpr fun s hs => ?_⟩
  · refine (mem_removeSupersets _ hnd (fun a b ha hb => ?_) s).trans (minimal_of_enum _ hreal hcov s)
    obtain ⟨wa, _, rfl⟩ := hreal a ha
    obtain ⟨wb, _, rfl⟩ := hreal b hb
    exact fset_antisymm
  · rw [hab, subsetL_refl] at h; cases h.1
  · obtain ⟨w, hw, _⟩ := hreal s (h1 s hs)
    rw [hH] at hw; cases hw

/-! non-vacuity: a faithful encoding of `¬a ∨ b` with one auxiliary, checked by the checker -/
example : cnfFaithfulB 2 1 [[-1, 2, 3], [-3, -1], [-3, 2], [3, -1, 2]]
    (fun w => !((⟨.atom 1, .atom 0, 1⟩ : Cond).fal w)) = true := by decide +kernel
example : cnfFaithfulB 2 0 [[2]] (fun w => !((⟨.atom 1, .atom 0, 1⟩ : Cond).fal w)) = false := by decide +kernel
example : cnfFaithfulB 2 0 [[-1, 2]] (fun w => !((⟨.atom 1, .atom 0, 1⟩ : Cond).fal w)) = true := by decide +kernel

end InfOCF
