import InfOCFModel.Props.Common
/-!
# C04  Lexicographic inference equals the lexicographic definition (both back-ends)

`algLex` is the recursion of `lex_inf.py` / `lex_inf_z3.py` after the repair (some
minimum-cardinality verifying set must win against every minimum-cardinality falsifying set);
`algLexAllPairs` is the recursion before the repair, refuted by `C04_allpairs_wrong`.
-/
namespace InfOCF

/-- **C04 (main)**: on a non-empty strongly consistent base lexicographic inference (either back-end) answers True
exactly when every world falsifying the query is lexicographically dominated by a world verifying it. -/
theorem C04_main (Ω : List World) (D : List Cond) (q : Cond) (P : List (List Cond))
    (hD : D ≠ []) (hP : partS Ω D = some P) :
    ansLex false Ω D q = .val (specLex P.reverse (Ω.filter q.ver) (Ω.filter q.fal)) := by
  rw [ansLex_eq (weakly := false) hD hP q, feasible_strict]; rfl

/-- the `∀∃` form of `specLex` is the comparison of lexicographically least vectors -/
theorem C04_min_form (layers : List (List Cond)) (Hv Hf : List World) (hv : Hv ≠ []) (hf : Hf ≠ []) :
    specLex layers Hv Hf = true ↔
      ∃ mv ∈ Hv, (∀ w ∈ Hv, lexLt (lexVec layers w) (lexVec layers mv) = false) ∧
      ∃ mf ∈ Hf, (∀ w ∈ Hf, lexLt (lexVec layers w) (lexVec layers mf) = false) ∧
        lexLt (lexVec layers mv) (lexVec layers mf) = true := by
  constructor
  · intro h
    obtain ⟨mv, hmv, hminv, hall⟩ := specLex_least hv h
    obtain ⟨mf, hmf, hminf⟩ := exists_lexmin _ _ (lexVec_length layers) Hf hf
    exact ⟨mv, hmv, hminv, mf, hmf, hminf, hall mf hmf⟩
  · rintro ⟨mv, hmv, _, mf, hmf, hminf, hlt⟩
    exact specLex_iff.mpr fun w' hw' => ⟨mv, hmv, lexLt_of_lt_of_le
      ((lexVec_length _ w').trans (lexVec_length _ mf).symm) hlt (hminf w' hw')⟩

/-- edge cases of the property: True if A∧¬B is unsatisfiable, False if only A∧B is -/
theorem C04_edges (layers : List (List Cond)) (Hv Hf : List World) :
    (Hf = [] → specLex layers Hv Hf = true) ∧ (Hv = [] → Hf ≠ [] → specLex layers Hv Hf = false) :=
  ⟨fun h => h ▸ rfl, fun hv hf => hv ▸ specLex_nil hf⟩

theorem C04_refuse (Ω : List World) (D : List Cond) (q : Cond) :
    (D = [] → ansLex false Ω D q = .refuseEmpty) ∧
    (D ≠ [] → partS Ω D = none → ansLex false Ω D q = .refuseIncons) :=
  wrap_refuse false Ω D q _

/-! ### the recursion before the repair is wrong (defect D5): concrete witness

signature a,b,c (atoms 0,1,2); base `(!a|(a;!a)), (b|c), (!c|(a;!a)), (c|a;!b), (!c|(a;!a))`;
query `(!a|!b)`. The all-pairs recursion answers False, the definition (and the repaired
recursion) True. -/
section Witness
def d5Ω := allWorlds 3
def d5taut : Fm := .or (.atom 0) (.neg (.atom 0))
def d5D : List Cond :=
  [⟨.neg (.atom 0), d5taut, 1⟩, ⟨.atom 1, .atom 2, 2⟩, ⟨.neg (.atom 2), d5taut, 3⟩,
   ⟨.atom 2, .or (.atom 0) (.neg (.atom 1)), 4⟩, ⟨.neg (.atom 2), d5taut, 5⟩]
def d5q : Cond := ⟨.neg (.atom 0), .neg (.atom 1), 0⟩

theorem C04_allpairs_wrong :
    ∃ P, partS d5Ω d5D = some P ∧
      algLexAllPairs P.reverse (d5Ω.filter d5q.ver) (d5Ω.filter d5q.fal) = false ∧
      specLex P.reverse (d5Ω.filter d5q.ver) (d5Ω.filter d5q.fal) = true ∧
      ansLex false d5Ω d5D d5q = .val true := by
  decide +kernel
end Witness

end InfOCF
