import InfOCFModel.Persist
import InfOCFModel.Props.C16
/-!
# C20  Saved ranking functions reload to behaviourally identical objects; failed saves are harmless
-/
namespace InfOCF

/-- **a save never changes the in-memory object**, whether it succeeds or fails at any byte -/
theorem C20_save_atomic (ser : PObj → List Nat) (failAfter : Option Nat) (o : PObj) :
    (saveOcf ser failAfter o).1 = o := by
  cases o; rfl

/-- **round trip**: a completed save followed by a load yields the saved state without its solver members -/
theorem C20_roundtrip (ser : PObj → List Nat) (deser : List Nat → Option PObj)
    (hcodec : ∀ x, deser (ser x) = some x) (o : PObj) :
    ∃ file, (saveOcf ser none o).2 = some file ∧ loadOcf deser file = some { o with solver := none } := by
  refine ⟨ser { o with solver := none }, rfl, ?_⟩
  rw [loadOcf, hcodec]; rfl

/-- a failed write leaves no loadable garbage claim: nothing is reported as written -/
theorem C20_failed_write (ser : PObj → List Nat) (o : PObj) (k : Nat) (hk : k < (ser { o with solver := none }).length) :
    (saveOcf ser (some k) o).2 = none :=
  if_pos hk

/-- **continued lazy computation**: on the loaded object (same partition, the saved partial cache) every
sequence of rank requests returns the same values as on the original with *its* cache -/
theorem C20_continue_lazy (Ω : List World) (o l : PObj) (hP : l.P = o.P)
    (ho : CacheOk o.P o.cache) (hl : CacheOk l.P l.cache) (ops : List ZOp) :
    zRun Ω l.P l.cache ops = zRun Ω o.P o.cache ops := by
  rw [zRun_eq Ω l.P ops l.cache hl, zRun_eq Ω o.P ops o.cache ho, hP]

/-- the loaded object's cache is as good as the saved one (so `C20_continue_lazy` applies to it) -/
theorem C20_loaded_cache_ok (ser : PObj → List Nat) (deser : List Nat → Option PObj)
    (hcodec : ∀ x, deser (ser x) = some x) (o : PObj) (ho : CacheOk o.P o.cache) :
    ∃ file l, (saveOcf ser none o).2 = some file ∧ loadOcf deser file = some l ∧ l.P = o.P ∧ l.cache = o.cache ∧
      l.impacts = o.impacts ∧ l.signature = o.signature ∧ l.metadata = o.metadata ∧ CacheOk l.P l.cache := by
  obtain ⟨file, h1, h2⟩ := C20_roundtrip ser deser hcodec o
  exact ⟨file, _, h1, h2, rfl, rfl, rfl, rfl, rfl, ho⟩

/-- **impacts round trip** -/
theorem C20_impacts_roundtrip (o fresh : PObj) (n : Nat) :
    importImpacts (exportImpacts o n) n fresh = some { fresh with impacts := o.impacts } :=
  if_pos rfl

/-- **impacts validation**: a record for a different number of conditionals is refused; a list of the wrong
length or with a negative entry is refused -/
theorem C20_impacts_validation (f : ImpactFile) (n : Nat) (o : PObj) (l : List Int) :
    (f.count ≠ n → importImpacts f n o = none) ∧
    (l.length ≠ n → loadImpactsList l n o = none) ∧
    ((∃ x ∈ l, x < 0) → loadImpactsList l n o = none) := by
  refine ⟨fun h => if_neg h, fun h => if_neg fun h' => h h'.1, ?_⟩
  rintro ⟨x, hx, hneg⟩
  exact if_neg fun h' => Int.not_le.mpr hneg (of_decide_eq_true (List.all_eq_true.mp h'.2 x hx))

example : (saveOcf (fun _ => [1, 2, 3]) (some 1) ⟨2, [], [1, 0], [([true, false], 1)], [], some 7⟩).1.solver = some 7 := by decide +kernel

end InfOCF
