import InfOCFModel.CRepModel
/-!
# C05  c-inference equals skeptical inference over all c-representations

c-inference does not use the definition (`IsCRep`: the ranking `κ(w) = Σ impacts of falsified
conditionals` accepts every conditional) but a *compiled* system: for each conditional `i` the
inclusion-minimal falsification sets (over the other conditionals) of the worlds verifying `i`
(`vMin`) and of the worlds falsifying `i` (`fMin`), and the constraint
`η_i > min_{S∈vMin} Σ_S η − min_{T∈fMin} Σ_T η`. The theorems below show, for **every** impact
assignment, that the compiled constraints hold iff the assignment is a c-representation, and that the
query constraint holds iff the induced ranking accepts the query; hence the existential statements the
solver decides coincide.
-/
namespace InfOCF

def leastNat : List Nat → Option Nat
  | [] => none
  | a :: rest => match leastNat rest with
    | none => some a
    | some m => some (min a m)

theorem leastNat_eq_min? (l : List Nat) : leastNat l = l.min? := by
  induction l with
  | nil => rfl
  | cons a t ih => rw [leastNat, ih, List.min?_cons]; cases t.min? <;> rfl

theorem leastNat_none (l : List Nat) : leastNat l = none ↔ l = [] := by
  rw [leastNat_eq_min?]; exact List.min?_eq_none_iff

theorem leastNat_some (l : List Nat) (m : Nat) :
    leastNat l = some m ↔ (m ∈ l ∧ ∀ x ∈ l, m ≤ x) := by
  rw [leastNat_eq_min?]; exact List.min?_eq_some_iff

theorem leastNat_map_some {α : Type} (f : α → Nat) (l : List α) (m : Nat) :
    leastNat (l.map f) = some m ↔ (∀ x ∈ l, m ≤ f x) ∧ ∃ x ∈ l, f x ≤ m := by
  rw [leastNat_some, List.forall_mem_map, List.mem_map]
  constructor
  · rintro ⟨⟨x, hx, rfl⟩, hall⟩; exact ⟨hall, x, hx, Nat.le_refl _⟩
  · rintro ⟨hall, x, hx, hle⟩; exact ⟨⟨x, hx, Nat.le_antisymm hle (hall x hx)⟩, hall⟩

def leastCost (imp : Cond → Nat) (X : List (List Cond)) : Option Nat := leastNat (X.map (cost imp))

def leastCostW (imp : Cond → Nat) (L : List Cond) (H : List World) : Option Nat :=
  leastNat (H.map fun w => cost imp (fset L w))

/-- **the compilation step is lossless**: the least cost over the inclusion-minimal falsification sets
equals the least cost over all worlds (impacts are non-negative) -/
theorem leastCost_famMin (imp : Cond → Nat) (L : List Cond) (H : List World) :
    leastCost imp (famMin L H) = leastCostW imp L H :=
  Option.ext fun m => by
    rw [leastCost, leastCostW, leastNat_map_some, leastNat_map_some]; exact (min_famMin imp L H m).symm

theorem leastCost_min? (imp : Cond → Nat) (L : List Cond) (H : List World) :
    leastCost imp (famMin L H) = (H.map fun w => cost imp (fset L w)).min? :=
  (leastCost_famMin imp L H).trans (leastNat_eq_min? _)

theorem C05_verifying_cost (imp : Cond → Nat) (D : List Cond) (i : Cond) (w : World) (h : i.fal w = false) :
    cost imp (fset D w) = cost imp (fset (others D i) w) :=
  congrArg (cost imp) (filter_others_of_not D i (·.fal w) h).symm

theorem C05_falsifying_cost (imp : Cond → Nat) (D : List Cond) (hD : D.Nodup) (i : Cond) (hi : i ∈ D) (w : World)
    (h : i.fal w = true) :
    cost imp (fset D w) = imp i + cost imp (fset (others D i) w) :=
  cost_filter_split imp (·.fal w) D hD i hi h

/-- `η_i > min vMin − min fMin`, with the repaired treatment of an empty `fMin` (no falsifying world: no
constraint) and the unsatisfiable empty `vMin` (no verifying world) -/
def CompiledOne (Ω : List World) (D : List Cond) (imp : Cond → Nat) (i : Cond) : Prop :=
  match leastCost imp (famMin (others D i) (Ω.filter i.ver)), leastCost imp (famMin (others D i) (Ω.filter i.fal)) with
  | none, _ => False
  | some _, none => True
  | some mv, some mf => mv < imp i + mf

theorem compiledOne_eq (Ω : List World) (D : List Cond) (imp : Cond → Nat) (i : Cond) :
    CompiledOne Ω D imp i = optLt (fun v f => v < imp i + f)
      (leastCost imp (famMin (others D i) (Ω.filter i.ver))) (leastCost imp (famMin (others D i) (Ω.filter i.fal))) := by
  unfold CompiledOne optLt; rfl

/-- **one conditional**: the ranking of an impact assignment accepts conditional `i` of the base exactly when
the compiled constraint of `i` holds -/
theorem C05_accepts_iff_compiled (Ω : List World) (D : List Cond) (hD : D.Nodup) (imp : Cond → Nat) (i : Cond) (hi : i ∈ D) :
    Accepts Ω (kappaC D imp) i ↔ CompiledOne Ω D imp i := by
  rw [compiledOne_eq, leastCost_min?, leastCost_min?]
  refine accepts_iff_optLt (fun h1 h2 => lt_of_le_lt_le h1 (Nat.add_le_add_left h2 _)) Ω _ i _ _ fun v w hv hw => ?_
  rw [kappaC, kappaC, C05_verifying_cost imp D i v (Cond.fal_of_ver hv), C05_falsifying_cost imp D hD i hi w hw]

/-- **the base system**: an impact assignment satisfies all compiled constraints iff it is a c-representation -/
theorem C05_base_iff (Ω : List World) (D : List Cond) (hD : D.Nodup) (imp : Cond → Nat) :
    IsCRep Ω D imp ↔ ∀ i ∈ D, CompiledOne Ω D imp i :=
  forall₂_congr (C05_accepts_iff_compiled Ω D hD imp)

/-- the query constraint of `compile_and_encode_query` (its negation, i.e. acceptance): `min vMin < min fMin`
over the minimal falsification sets of *all* conditionals, with the edge cases of the code -/
def CompiledQueryAccepts (Ω : List World) (D : List Cond) (imp : Cond → Nat) (q : Cond) : Prop :=
  match leastCost imp (famMin D (Ω.filter q.ver)), leastCost imp (famMin D (Ω.filter q.fal)) with
  | none, _ => False
  | some _, none => True
  | some mv, some mf => mv < mf

theorem compiledQueryAccepts_eq (Ω : List World) (D : List Cond) (imp : Cond → Nat) (q : Cond) :
    CompiledQueryAccepts Ω D imp q =
      optLt (· < ·) (leastCost imp (famMin D (Ω.filter q.ver))) (leastCost imp (famMin D (Ω.filter q.fal))) := by
  unfold CompiledQueryAccepts optLt; rfl

/-- **the query**: the induced ranking accepts the query iff the compiled query comparison holds -/
theorem C05_query_iff (Ω : List World) (D : List Cond) (imp : Cond → Nat) (q : Cond) :
    Accepts Ω (kappaC D imp) q ↔ CompiledQueryAccepts Ω D imp q := by
  rw [compiledQueryAccepts_eq, leastCost_min?, leastCost_min?]
  exact accepts_iff_optLt lt_of_le_lt_le Ω _ q _ _ fun _ _ _ _ => Iff.rfl

theorem specC_iff {Ω : List World} {q : Cond} (hf : ∃ w ∈ Ω, q.fal w = true) (D : List Cond) :
    specC Ω D q ↔ ∀ imp, IsCRep Ω D imp → Accepts Ω (kappaC D imp) q :=
  or_iff_right fun hno => by obtain ⟨w, hw, hfw⟩ := hf; rw [hno w hw] at hfw; cases hfw

/-- **c-inference = skeptical c-inference**: "no impact assignment satisfies the compiled base system together
with the negated compiled query comparison" is exactly `specC` (for a query with a falsifying world) -/
theorem C05_main (Ω : List World) (D : List Cond) (hD : D.Nodup) (q : Cond) (hf : ∃ w ∈ Ω, q.fal w = true) :
    (¬ ∃ imp : Cond → Nat, (∀ i ∈ D, CompiledOne Ω D imp i) ∧ ¬ CompiledQueryAccepts Ω D imp q) ↔ specC Ω D q := by
  rw [specC_iff hf]
  simp only [← C05_base_iff Ω D hD, ← C05_query_iff, not_exists, not_and, Classical.not_not]

/-- **a conditional that no world falsifies is treated like any other**: it only requires a verifying world
and puts no condition on the impacts -/
theorem C05_unfalsifiable (Ω : List World) (D : List Cond) (imp : Cond → Nat) (i : Cond)
    (hnf : ∀ w ∈ Ω, i.fal w = false) :
    CompiledOne Ω D imp i ↔ ∃ w ∈ Ω, i.ver w = true := by
  have hnil : Ω.filter i.fal = [] := List.filter_eq_nil_iff.mpr fun w hw => ne_true_of_eq_false (hnf w hw)
  rw [compiledOne_eq, leastCost_min?, leastCost_min?, optLt_min? (fun h1 h2 => lt_of_le_lt_le h1 (Nat.add_le_add_left h2 _)), hnil]
  simp only [List.not_mem_nil, false_imp_iff, implies_true, and_true, List.mem_filter]

/-! non-vacuity: the penguin base has the c-representation (1,2,2); it rejects (f|p) -/
section Example
def exC05 : List Cond := [⟨.atom 2, .atom 0, 1⟩, ⟨.neg (.atom 2), .atom 1, 2⟩, ⟨.atom 0, .atom 1, 3⟩]
example : isCRepB (allWorlds 3) exC05 [1, 2, 2] = true := by decide +kernel
example : acceptCode (allWorlds 3) (kappaC exC05 (impOf exC05 [1, 2, 2])) ⟨.atom 2, .atom 1, 0⟩ = false := by decide +kernel
example : exC05.Nodup := by decide +kernel
end Example

end InfOCF
