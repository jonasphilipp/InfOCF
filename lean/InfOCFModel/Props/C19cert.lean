import InfOCFModel.Props.C17cert
/-!
# C19, "returns nothing only if no such parameters exist": an accepted certificate proves that no parameters exist

`C19_none_cert_sound`: if `revCertCheck Ω κ R gpz pool = true` then for **all** parameter vectors `γ⁺ γ⁻` (with
`γ⁺ = 0` when `gpz`) the revised ranking fails to accept some revision conditional.
The checker enumerates every choice of one verifying world per revision conditional; for each choice the system
`κ*(v_i) + 1 ≤ κ*(f)` (all falsifying worlds `f` of conditional `i`) must be refuted by a non-negative combination
(`linRefute`). The multipliers are found by the harness; only their check is trusted.
-/
namespace InfOCF

theorem dotL_append (b y a x : List Nat) (h : a.length = x.length) :
    dotL (a ++ b) (x ++ y) = dotL a x + dotL b y := by
  induction a generalizing x with
  | nil => cases x with | nil => exact (Nat.zero_add _).symm | cons _ _ => cases h
  | cons a0 as ih =>
    cases x with
    | nil => cases h
    | cons x0 xs =>
      show a0 * x0 + dotL (as ++ b) (xs ++ y) = a0 * x0 + dotL as xs + dotL b y
      rw [ih xs (Nat.succ.inj h), Nat.add_assoc]

theorem kappaRev_dot (κ : World → Nat) (R : List Cond) (gp gm : List Nat) (w : World) :
    kappaRev κ R gp gm w = dotL (revRowV R w) (R.map (impOf R gp) ++ R.map (impOf R gm)) + κ w := by
  unfold kappaRev revRowV
  rw [dotL_append _ _ _ _ (by simp [indV]), indV, indV, dotL_map, dotL_map, valF_ind_filter, valF_ind_filter, Nat.add_assoc]
  exact Nat.add_comm ..

theorem ones_dot_zero (f : Cond → Nat) (y : List Nat) (h : ∀ c, f c = 0) (R : List Cond) :
    dotL (List.replicate R.length 1) (R.map f ++ y) = 0 := by
  induction R with
  | nil => simp [dotL]
  | cons a t ih =>
    simp only [List.length_cons, List.replicate_succ, List.map_cons, List.cons_append, dotL, ih, h a]

/-- **an accepted certificate proves that no parameters exist** -/
theorem C19_none_cert_sound (Ω : List World) (κ : World → Nat) (R : List Cond) (gpz : Bool) (pool : List RLeaf)
    (h : revCertCheck Ω κ R gpz pool = true) (gp gm : List Nat) (hz : gpz = true → ∀ c, impOf R gp c = 0) :
    acceptsAll Ω (kappaRev κ R gp gm) R = false := by
  refine Bool.eq_false_iff.mpr fun hacc => ?_
  -- acceptance gives every revision conditional a verifying world strictly below all its falsifying worlds
  have hrows : ∀ i ∈ R, ∃ v ∈ Ω.filter i.ver, ∀ f ∈ Ω.filter i.fal, kappaRev κ R gp gm v < kappaRev κ R gp gm f :=
    fun i hi => accepts_iff_ver_fal.mp ((C18_accept_iff Ω _ i).mp (List.all_eq_true.mp hacc i hi))
  obtain ⟨ch, hch, hfacts⟩ := choices_exists R hrows
  unfold revCertCheck at h
  simp only [List.all_eq_true, List.any_eq_true] at h
  obtain ⟨lf, _, hok⟩ := h ch hch
  refine linRefute_sound (R.map (impOf R gp) ++ R.map (impOf R gm)) _ (List.forall_mem_append.mpr
    ⟨forall_rows fun x y hx hy => ?_, fun p hp => ?_⟩) hok
  · have hlt := hfacts x.1 hx y.1 hy
    rw [kappaRev_dot, kappaRev_dot] at hlt
    show dotL (revRowV R x.1.2) _ + (κ x.1.2 + 1) ≤ dotL (revRowV R y.1) _ + κ y.1
    exact hlt
  · cases gpz with
    | false => cases hp
    | true =>
      rw [List.mem_singleton.mp hp]
      show dotL (List.replicate R.length 1) _ + 0 ≤ 0 + 0
      rw [ones_dot_zero (impOf R gp) _ (hz rfl) R]
      exact Nat.le_refl _

/-- in terms of the executable check used for returned parameters: no vectors pass `revOkB` -/
theorem C19_none_cert_revOk (Ω : List World) (κ : World → Nat) (R : List Cond) (gpz : Bool) (pool : List RLeaf)
    (h : revCertCheck Ω κ R gpz pool = true) (gp gm : List Nat) (hz : gpz = true → ∀ c, impOf R gp c = 0) :
    revOkB Ω κ R gp gm = false := by
  unfold revOkB
  rw [C19_none_cert_sound Ω κ R gpz pool h gp gm hz]
  exact Bool.and_false _

/-! non-vacuity: zero prior over two atoms, `(a|b)` and `(¬a|b)` contradict each other: adding the two strict
inequalities gives `2 ≤ 0` -/
section Example
def exRev : List Cond := [⟨.atom 0, .atom 1, 1⟩, ⟨.neg (.atom 0), .atom 1, 2⟩]
theorem exRev_refuted : revCertCheck (allWorlds 2) (fun _ => 0) exRev false [⟨[[1], [1]], 0⟩] = true := by decide +kernel
example : revCertCheck (allWorlds 2) (fun _ => 0) exRev false [⟨[[1], [1]], 0⟩] = true := exRev_refuted
example (gp gm : List Nat) : revOkB (allWorlds 2) (fun _ => 0) exRev gp gm = false :=
  C19_none_cert_revOk _ _ _ false [⟨[[1], [1]], 0⟩] exRev_refuted gp gm (by intro h; cases h)
example : revCertCheck (allWorlds 2) (fun _ => 0) [⟨.atom 0, .atom 1, 1⟩] false [⟨[[1], [1]], 0⟩] = false := by decide +kernel
end Example

end InfOCF
