import InfOCFModel.Props.Common
/-!
# C12  Answers depend only on meaning, not on presentation

Everything the operator models compute looks at a world only through the verification / falsification
of conditionals, and at a layer only through filters on it and its length. This file makes that one
statement: a *transport* `σ` between two world lists (`Transport`) together with a relation `S` between
layers that survives every filter respecting "same behaviour along `σ`" and `++`, and preserves length
(`LayerRel σ S`) carries partitions to `S`-related partitions and every answer to the same answer
(`tolPart_sim` … `ans_sim`). Lemmas named `_sim` are about such a pair `σ`, `S`; those named `_ren` about
`S = Rel2 (VFS σ)` or a single pair of conditionals related by `VFS σ`; those named `_congr` about `σ = id` as well.
The presentations of C12 are instances:

* re-keying / equivalent formulas: `σ = id`, `S = Rel2 (VFS id)`, written `BaseEq` (this file),
* renaming of atoms / larger signature: `σ = pull ρ n`, `S = Rel2 (VFS σ)` (`C12ren.lean`),
* listing order: `σ = id`, `S = List.Perm` (end of this file).
-/
namespace InfOCF

inductive Rel2 {α β : Type} (R : α → β → Prop) : List α → List β → Prop
  | nil : Rel2 R [] []
  | cons {a b l l'} : R a b → Rel2 R l l' → Rel2 R (a :: l) (b :: l')

section
variable {α β : Type} {R : α → β → Prop}

theorem Rel2.length_eq {l : List α} {l' : List β} (h : Rel2 R l l') : l.length = l'.length := by
  induction h with
  | nil => rfl
  | cons _ _ ih => simp [ih]

theorem Rel2.append {l1 l2 : List α} {m1 m2 : List β}
    (h1 : Rel2 R l1 m1) (h2 : Rel2 R l2 m2) : Rel2 R (l1 ++ l2) (m1 ++ m2) := by
  induction h1 with
  | nil => exact h2
  | cons hab _ ih => exact Rel2.cons hab ih

theorem Rel2.reverse {l : List α} {m : List β} (h : Rel2 R l m) : Rel2 R l.reverse m.reverse := by
  induction h with
  | nil => exact Rel2.nil
  | cons hab _ ih => simp only [List.reverse_cons]; exact Rel2.append ih (Rel2.cons hab Rel2.nil)

theorem Rel2.filter {l : List α} {m : List β} (p : α → Bool) (p' : β → Bool)
    (hp : ∀ a b, R a b → p' b = p a) (h : Rel2 R l m) : Rel2 R (l.filter p) (m.filter p') := by
  induction h with
  | nil => exact Rel2.nil
  | @cons a b _ _ hab _ ih =>
    rw [List.filter_cons, List.filter_cons, hp a b hab]
    cases p a
    · exact ih
    · exact Rel2.cons hab ih

theorem Rel2.dropLast {l : List α} {m : List β} (h : Rel2 R l m) : Rel2 R l.dropLast m.dropLast := by
  induction h with
  | nil => exact Rel2.nil
  | cons hab hl ih =>
    cases hl with
    | nil => exact Rel2.nil
    | cons hab' hl' => exact Rel2.cons hab ih

theorem Rel2.getLastD {l : List α} {m : List β} (h : Rel2 R l m) {a : α} {b : β} (hab : R a b) :
    R (l.getLastD a) (m.getLastD b) := by
  induction h generalizing a b with
  | nil => exact hab
  | cons hab' _ ih =>
    rw [List.getLastD_cons, List.getLastD_cons]
    exact ih hab'

end

/-- `σ` maps the worlds of the second presentation onto those of the first -/
structure Transport (Ω Ω' : List World) (σ : World → World) : Prop where
  into : ∀ w' ∈ Ω', σ w' ∈ Ω
  onto : ∀ w ∈ Ω, ∃ w' ∈ Ω', σ w' = w

theorem Transport.refl (Ω : List World) : Transport Ω Ω id := ⟨fun _ h => h, fun w h => ⟨w, h, rfl⟩⟩

theorem Transport.exists_iff {Ω Ω' : List World} {σ : World → World} (T : Transport Ω Ω' σ) {P P' : World → Prop}
    (h : ∀ w', P' w' ↔ P (σ w')) : (∃ w' ∈ Ω', P' w') ↔ ∃ w ∈ Ω, P w := by
  constructor
  · rintro ⟨w', hw', hp⟩; exact ⟨σ w', T.into w' hw', (h w').mp hp⟩
  · rintro ⟨w, hw, hp⟩
    obtain ⟨w', hw', rfl⟩ := T.onto w hw
    exact ⟨w', hw', (h w').mpr hp⟩

theorem Transport.forall_iff {Ω Ω' : List World} {σ : World → World} (T : Transport Ω Ω' σ) {P P' : World → Prop}
    (h : ∀ w', P' w' ↔ P (σ w')) : (∀ w' ∈ Ω', P' w') ↔ ∀ w ∈ Ω, P w := by
  constructor
  · intro H w hw
    obtain ⟨w', hw', rfl⟩ := T.onto w hw
    exact (h w').mp (H w' hw')
  · intro H w' hw'; exact (h w').mpr (H _ (T.into w' hw'))

theorem Transport.any {Ω Ω' : List World} {σ : World → World} (T : Transport Ω Ω' σ) {g g' : World → Bool}
    (h : ∀ w', g' w' = g (σ w')) : Ω'.any g' = Ω.any g := by
  rw [Bool.eq_iff_iff, List.any_eq_true, List.any_eq_true]
  exact T.exists_iff fun w' => by rw [h]

theorem Transport.all {Ω Ω' : List World} {σ : World → World} (T : Transport Ω Ω' σ) {g g' : World → Bool}
    (h : ∀ w', g' w' = g (σ w')) : Ω'.all g' = Ω.all g := by
  rw [Bool.eq_iff_iff, List.all_eq_true, List.all_eq_true]
  exact T.forall_iff fun w' => by rw [h]

theorem Transport.filter {Ω Ω' : List World} {σ : World → World} (T : Transport Ω Ω' σ) {p p' : World → Bool}
    (h : ∀ w', p' w' = p (σ w')) : Transport (Ω.filter p) (Ω'.filter p') σ := by
  constructor
  · intro w' hw'
    have := List.mem_filter.mp hw'
    exact List.mem_filter.mpr ⟨T.into w' this.1, (h w').symm.trans this.2⟩
  · intro w hw
    have := List.mem_filter.mp hw
    obtain ⟨w', hw', rfl⟩ := T.onto w this.1
    exact ⟨w', List.mem_filter.mpr ⟨hw', (h w').trans this.2⟩, rfl⟩

/-- `c'` is verified and falsified at `w'` exactly as `c` is at `σ w'` -/
def VFS (σ : World → World) (c c' : Cond) : Prop := ∀ w', c'.ver w' = c.ver (σ w') ∧ c'.fal w' = c.fal (σ w')

theorem VFS.refl (c : Cond) : VFS id c c := fun _ => ⟨rfl, rfl⟩

abbrev BaseRen (σ : World → World) := Rel2 (VFS σ)
abbrev PartRen (σ : World → World) := Rel2 (Rel2 (VFS σ))

/-- what a relation between layers must satisfy for the simulation: the operators filter a layer and take its length,
nothing else; the infinity layer of the strict mode is `[]`; p-entailment puts the negated query before or behind the base -/
structure LayerRel (σ : World → World) (S : List Cond → List Cond → Prop) : Prop where
  filter : ∀ {L L'} (p p' : Cond → Bool), (∀ c c', VFS σ c c' → p' c' = p c) → S L L' → S (L.filter p) (L'.filter p')
  length_eq : ∀ {L L'}, S L L' → L.length = L'.length
  nil : S [] []
  append : ∀ {L M L' M'}, S L L' → S M M' → S (L ++ M) (L' ++ M')

theorem layerRel_ren (σ : World → World) : LayerRel σ (BaseRen σ) := ⟨Rel2.filter, Rel2.length_eq, Rel2.nil, Rel2.append⟩

theorem layerRel_perm : LayerRel id (fun (a b : List Cond) => a.Perm b) := by
  refine ⟨fun p p' hp h => ?_, List.Perm.length_eq, .nil, List.Perm.append⟩
  rw [show p' = p from funext fun c => hp c c (.refl c)]
  exact h.filter p

def OptRel {α β} (R : α → β → Prop) (x : Option α) (y : Option β) : Prop :=
  (x = none ∧ y = none) ∨ ∃ a b, x = some a ∧ y = some b ∧ R a b

section
variable {α β γ δ : Type} {R : α → β → Prop}

theorem OptRel.none : OptRel R none none := .inl ⟨rfl, rfl⟩

theorem OptRel.some {a : α} {b : β} (h : R a b) : OptRel R (some a) (some b) := .inr ⟨a, b, rfl, rfl, h⟩

theorem OptRel.isNone_eq {x : Option α} {y : Option β} : OptRel R x y → y.isNone = x.isNone := by
  rintro (⟨rfl, rfl⟩ | ⟨_, _, rfl, rfl, _⟩) <;> rfl

theorem OptRel.ite {c : Prop} [Decidable c] {x x' y y'} (h : OptRel R x y) (h' : OptRel R x' y') :
    OptRel R (if c then x else x') (if c then y else y') := by
  split
  · exact h
  · exact h'

theorem OptRel.map {R' : γ → δ → Prop} {f : α → γ} {g : β → δ} {x y}
    (hf : ∀ a b, R a b → R' (f a) (g b)) : OptRel R x y → OptRel R' (x.map f) (y.map g) := by
  rintro (⟨rfl, rfl⟩ | ⟨a, b, rfl, rfl, h⟩)
  · exact .none
  · exact .some (hf a b h)

end

section
variable {σ : World → World} {S : List Cond → List Cond → Prop} (hS : LayerRel σ S)
include hS

theorem LayerRel.isEmpty_eq {L L' : List Cond} (h : S L L') : L'.isEmpty = L.isEmpty := by
  rw [Bool.eq_iff_iff, List.isEmpty_iff_length_eq_zero, List.isEmpty_iff_length_eq_zero, hS.length_eq h]

theorem LayerRel.all_eq {L L' : List Cond} (h : S L L') {p p' : Cond → Bool} (hp : ∀ c c', VFS σ c c' → p' c' = p c) :
    L'.all p' = L.all p := by
  -- `p` holds throughout a list iff filtering by `p` keeps its length
  rw [Bool.eq_iff_iff, List.all_eq_true, List.all_eq_true, ← List.length_filter_eq_length_iff,
    ← List.length_filter_eq_length_iff, hS.length_eq h, hS.length_eq (hS.filter p p' hp h)]

theorem LayerRel.any_eq {L L' : List Cond} (h : S L L') {p p' : Cond → Bool} (hp : ∀ c c', VFS σ c c' → p' c' = p c) :
    L'.any p' = L.any p := by
  rw [List.any_eq_not_all_not, List.any_eq_not_all_not, hS.all_eq h fun c c' hc => by rw [hp c c' hc]]

theorem LayerRel.forall_iff {L L' : List Cond} (h : S L L') {P P' : Cond → Prop} (hp : ∀ c c', VFS σ c c' → (P' c' ↔ P c)) :
    (∀ c ∈ L', P' c) ↔ (∀ c ∈ L, P c) := by
  classical
  have := hS.all_eq h (p := fun c => decide (P c)) (p' := fun c => decide (P' c))
    (fun c c' hc => decide_eq_decide.mpr (hp c c' hc))
  rw [Bool.eq_iff_iff] at this
  simpa only [List.all_eq_true, decide_eq_true_eq] using this

theorem nofal_sim {L L' : List Cond} (h : S L L') (w' : World) : nofal L' w' = nofal L (σ w') :=
  hS.all_eq h fun c c' hc => by rw [(hc w').2]

theorem greedy_sim {Ω Ω' : List World} (T : Transport Ω Ω' σ) {verdict verdict' : List Cond → Option (List (List Cond))}
    (hv : ∀ r r', S r r' → OptRel (Rel2 S) (verdict r) (verdict' r')) (fuel : Nat) {cs cs' : List Cond} (h : S cs cs') :
    OptRel (Rel2 S) (greedy Ω verdict fuel cs) (greedy Ω' verdict' fuel cs') := by
  induction fuel generalizing cs cs' with
  | zero =>
    rw [greedy, greedy, hS.isEmpty_eq h]
    exact .ite (hv _ _ h) .none
  | succ n ih =>
    have ht : ∀ c c', VFS σ c c' → tolerated Ω' cs' c' = tolerated Ω cs c := fun _ _ hc =>
      T.any fun w' => by rw [(hc w').1, nofal_sim hS h w']
    have hR := hS.filter _ _ ht h
    have hC := hS.filter (fun c => !tolerated Ω cs c) (fun c => !tolerated Ω' cs' c) (fun c c' hc => by rw [ht c c' hc]) h
    rw [greedy, greedy, hS.isEmpty_eq hR]
    exact .ite (hv _ _ h) ((ih hC).map fun _ _ hP => Rel2.cons hR hP)

theorem tolPart_sim {Ω Ω' : List World} (T : Transport Ω Ω' σ) (fuel : Nat) {cs cs' : List Cond} (h : S cs cs') :
    OptRel (Rel2 S) (tolPart Ω fuel cs) (tolPart Ω' fuel cs') := by
  rw [tolPart_eq_greedy, tolPart_eq_greedy]
  refine greedy_sim hS T (fun r r' hr => ?_) fuel h
  rw [hS.isEmpty_eq hr]
  exact .ite (.some Rel2.nil) .none

theorem tolPartExt_sim {Ω Ω' : List World} (T : Transport Ω Ω' σ) (fuel : Nat) {cs cs' : List Cond} (h : S cs cs') :
    OptRel (Rel2 S) (tolPartExt Ω fuel cs) (tolPartExt Ω' fuel cs') := by
  rw [tolPartExt_eq_greedy, tolPartExt_eq_greedy]
  refine greedy_sim hS T (fun r r' hr => ?_) fuel h
  rw [hS.isEmpty_eq hr, T.any fun w' => nofal_sim hS hr w']
  exact .ite (.some (Rel2.cons hr Rel2.nil)) .none

theorem partFor_sim (weakly : Bool) {Ω Ω' : List World} (T : Transport Ω Ω' σ) {D D' : List Cond} (h : S D D') :
    OptRel (Rel2 S) (partFor weakly Ω D) (partFor weakly Ω' D') := by
  cases weakly
  · simp only [partFor, Bool.false_eq_true, ↓reduceIte, partS, ← hS.length_eq h]
    exact tolPart_sim hS T _ h
  · simp only [partFor, ↓reduceIte, partE, ← hS.length_eq h]
    exact tolPartExt_sim hS T _ h

theorem zrk_sim {P P' : List (List Cond)} (h : Rel2 S P P') (w' : World) : zrk P' w' = zrk P (σ w') := by
  induction h with
  | nil => rfl
  | cons hL _ ih => rw [zrk, zrk, ih, hS.any_eq hL fun c c' hc => (hc w').2]

theorem wless_sim {T T' : List (List Cond)} (h : Rel2 S T T') (w w' : World) :
    wless T' w w' = wless T (σ w) (σ w') := by
  induction h with
  | nil => rfl
  | @cons L L' _ _ hL _ ih =>
    have h1 : (fset L' w = fset L' w') ↔ (fset L (σ w) = fset L (σ w')) := by
      rw [fset_eq_iff, fset_eq_iff]
      exact hS.forall_iff hL fun c c' hc => by rw [(hc w).2, (hc w').2]
    have h2 : subsetL (fset L' w) (fset L' w') = subsetL (fset L (σ w)) (fset L (σ w')) := by
      rw [Bool.eq_iff_iff, subset_fset_iff, subset_fset_iff]
      exact hS.forall_iff hL fun c c' hc => by rw [(hc w).2, (hc w').2]
    rw [wless, wless]
    exact ite_congr (propext h1) (fun _ => ih) (fun _ => h2)

theorem lexVec_sim {T T' : List (List Cond)} (h : Rel2 S T T') (w' : World) : lexVec T' w' = lexVec T (σ w') := by
  induction h with
  | nil => simp only [lexVec, List.map_nil]
  | @cons L L' _ _ hL _ ih =>
    -- `cnt L w` is the length of `fset L w`, a filter of `L` by falsification at `w`
    have hc : cnt L' w' = cnt L (σ w') :=
      (hS.length_eq (hS.filter (·.fal (σ w')) (·.fal w') (fun c c' hc => (hc w').2) hL)).symm
    rw [lexVec_cons, lexVec_cons, ih, hc]

/-- what the wrapper hands to an operator body: the finite layers and the feasible worlds of the mode -/
theorem view_sim (weakly : Bool) {Ω Ω' : List World} (T : Transport Ω Ω' σ) {P P' : List (List Cond)}
    (h : Rel2 S P P') :
    Rel2 S (finLayers weakly P) (finLayers weakly P') ∧
    Transport (feasible Ω (infLayer weakly P)) (feasible Ω' (infLayer weakly P')) σ := by
  cases weakly
  · exact ⟨h, T.filter (nofal_sim hS hS.nil)⟩
  · exact ⟨h.dropLast, T.filter (nofal_sim hS (h.getLastD hS.nil))⟩

end

section
variable {σ : World → World}

/-- `prefEnt` is an `all` over the falsifying worlds of an `any` over the verifying ones; the two filtered lists are
transported separately -/
theorem prefEnt_ren {Ω Ω' : List World} (T : Transport Ω Ω' σ) {q q' : Cond} (hq : VFS σ q q')
    (lt lt' : World → World → Bool) (hlt : ∀ a b, lt' a b = lt (σ a) (σ b)) :
    prefEnt Ω' lt' q' = prefEnt Ω lt q := by
  have Tf : Transport (Ω.filter q.fal) (Ω'.filter q'.fal) σ := T.filter fun w' => (hq w').2
  have Tv : Transport (Ω.filter q.ver) (Ω'.filter q'.ver) σ := T.filter fun w' => (hq w').1
  rw [prefEnt, prefEnt]
  exact Tf.all (g := fun x => (Ω.filter q.ver).any fun w => lt w x) fun w' =>
    Tv.any (g := fun w => lt w (σ w')) fun w0 => hlt w0 w'

theorem negq_VFS {q q' : Cond} (hq : VFS σ q q') : VFS σ (negq q) (negq q') := by
  intro w; simp only [negq_ver, negq_fal]; exact ⟨(hq w).2, (hq w).1⟩

end

section
variable {σ : World → World} {S : List Cond → List Cond → Prop} (hS : LayerRel σ S)
include hS

/-- the body is only asked when some world falsifies the query, which in strict mode is then a feasible one -/
theorem wrap_sim (weakly : Bool) {Ω Ω' : List World} (T : Transport Ω Ω' σ) {D D' : List Cond} (h : S D D')
    {q q' : Cond} (hq : VFS σ q q') {body body' : List (List Cond) → List World → Bool}
    (hb : ∀ fin fin' Ωf Ωf', Rel2 S fin fin' → Transport Ωf Ωf' σ → (weakly = true ∨ Ωf.any q.fal = true) →
      (weakly = true ∨ Ωf'.any q'.fal = true) → body' fin' Ωf' = body fin Ωf) :
    wrap weakly Ω' D' q' body' = wrap weakly Ω D q body := by
  have hnil : D' = [] ↔ D = [] := by rw [← List.isEmpty_iff, ← List.isEmpty_iff, hS.isEmpty_eq h]
  by_cases hD : D = []
  · rw [hD, hnil.mpr hD]; rfl
  · have hD' := mt hnil.mp hD
    rcases partFor_sim hS weakly T h with ⟨h1, h2⟩ | ⟨P, P', h1, h2, hP⟩
    · rw [wrap_none hD h1, wrap_none hD' h2]
    · have hfal : Ω'.any q'.fal = Ω.any q.fal := T.any fun w' => (hq w').2
      rw [wrap_some _ hD h1, wrap_some _ hD' h2, hfal]
      cases hf : Ω.any q.fal
      · rfl
      · obtain ⟨hfin, TΩ⟩ := view_sim hS weakly T hP
        rw [hb _ _ _ _ hfin TΩ (any_fal_feasible q hf) (any_fal_feasible q' (hfal.trans hf))]

/-- every answer is carried along. For **p-entailment** the partitions are those of the base with the negated query put
in front (strict) or appended (extended); `hn` relates the negated queries -/
theorem ans_sim (weakly : Bool) {Ω Ω' : List World} (T : Transport Ω Ω' σ) {D D' : List Cond} (h : S D D')
    {q q' : Cond} (hq : VFS σ q q') (hn : S [negq q] [negq q']) :
    ansP weakly Ω' D' q' = ansP weakly Ω D q ∧ ansZ weakly Ω' D' q' = ansZ weakly Ω D q ∧
    ansW weakly Ω' D' q' = ansW weakly Ω D q ∧ ansLex weakly Ω' D' q' = ansLex weakly Ω D q := by
  refine ⟨?_, ?_, ?_, ?_⟩
  · have hb : bodyP weakly Ω' D' q' = bodyP weakly Ω D q := by
      cases weakly
      · rw [bodyP, bodyP, if_neg Bool.false_ne_true, if_neg Bool.false_ne_true, ← hS.length_eq h]
        exact (tolPart_sim hS T _ (hS.append hn h)).isNone_eq
      · rw [bodyP, bodyP, if_pos rfl, if_pos rfl, algPExt, algPExt, ← hS.length_eq h]
        rcases tolPartExt_sim hS T (D.length + 2) (hS.append h hn) with ⟨h1, h2⟩ | ⟨P, P', h1, h2, hP⟩
        · -- no partition on either side
          rw [h1, h2]
        · -- partitions `P`, `P'`: the answer is "no world satisfies the antecedent and falsifies nothing of the last layer"
          rw [h1, h2]
          have hl : S (P.getLastD []) (P'.getLastD []) := hP.getLastD hS.nil
          have hw : ∀ w', (q'.ante.eval w' && nofal (P'.getLastD []) w') = (q.ante.eval (σ w') && nofal (P.getLastD []) (σ w')) :=
            fun w' => by rw [nofal_sim hS hl w', ante_of_vf, ante_of_vf q, (hq w').1, (hq w').2]
          exact congrArg (!·) (T.any hw)
    exact wrap_sim hS weakly T h hq fun _ _ _ _ _ _ _ _ => hb
  · refine wrap_sim hS weakly T h hq fun fin fin' Ωf Ωf' hfin TΩ hf hf' => ?_
    rw [bodyZ_eq hf, bodyZ_eq hf']
    exact prefEnt_ren TΩ hq _ _ fun a b => by rw [zrk_sim hS hfin a, zrk_sim hS hfin b]
  · refine wrap_sim hS weakly T h hq fun fin fin' Ωf Ωf' hfin TΩ hf hf' => ?_
    rw [bodyW_eq hf, bodyW_eq hf', specW', specW', specW_eq_prefEnt, specW_eq_prefEnt]
    exact prefEnt_ren TΩ hq _ _ fun a b => wless_sim hS hfin.reverse a b
  · refine wrap_sim hS weakly T h hq fun fin fin' Ωf Ωf' hfin TΩ _ _ => ?_
    rw [bodyLex_eq, bodyLex_eq, specLex', specLex', specLex_eq_prefEnt, specLex_eq_prefEnt]
    exact prefEnt_ren TΩ hq _ _ fun a b => by
      rw [lexVec_sim hS hfin.reverse a, lexVec_sim hS hfin.reverse b]

end

section
variable {σ : World → World}

theorem zrk_ren {P P' : List (List Cond)} (h : PartRen σ P P') (w' : World) : zrk P' w' = zrk P (σ w') :=
  zrk_sim (layerRel_ren σ) h w'

end

theorem ans_ren {σ : World → World} (weakly : Bool) {Ω Ω' : List World} (T : Transport Ω Ω' σ) {D D' : List Cond}
    (h : BaseRen σ D D') {q q' : Cond} (hq : VFS σ q q') :
    ansP weakly Ω' D' q' = ansP weakly Ω D q ∧ ansZ weakly Ω' D' q' = ansZ weakly Ω D q ∧
    ansW weakly Ω' D' q' = ansW weakly Ω D q ∧ ansLex weakly Ω' D' q' = ansLex weakly Ω D q :=
  ans_sim (layerRel_ren σ) weakly T h hq (Rel2.cons (negq_VFS hq) Rel2.nil)

/-- `VFS id` written out: the two unfold to the same proposition, so the corollaries below (and `C12c.lean`) hand a `VFEq` /
`BaseEq` / `PartEq` hypothesis to lemmas stated for `VFS id` / `BaseRen id` / `PartRen id` and read their conclusions back, without a
conversion lemma -/
def VFEq (c c' : Cond) : Prop := ∀ w, c'.ver w = c.ver w ∧ c'.fal w = c.fal w

abbrev BaseEq := Rel2 VFEq
abbrev PartEq := Rel2 (Rel2 VFEq)

theorem BaseEq_refl_nil : BaseEq [] [] := Rel2.nil

/-! the instances the C12 check audits by name -/

theorem tolPart_congr (Ω : List World) (fuel : Nat) {cs cs' : List Cond} (h : BaseEq cs cs') :
    (tolPart Ω fuel cs = none ∧ tolPart Ω fuel cs' = none) ∨
    ∃ P P', tolPart Ω fuel cs = some P ∧ tolPart Ω fuel cs' = some P' ∧ PartEq P P' :=
  tolPart_sim (layerRel_ren id) (Transport.refl Ω) fuel h

theorem tolPartExt_congr (Ω : List World) (fuel : Nat) {cs cs' : List Cond} (h : BaseEq cs cs') :
    (tolPartExt Ω fuel cs = none ∧ tolPartExt Ω fuel cs' = none) ∨
    ∃ P P', tolPartExt Ω fuel cs = some P ∧ tolPartExt Ω fuel cs' = some P' ∧ PartEq P P' :=
  tolPartExt_sim (layerRel_ren id) (Transport.refl Ω) fuel h

theorem zrk_congr {P P' : List (List Cond)} (h : PartEq P P') (w : World) : zrk P' w = zrk P w :=
  zrk_sim (layerRel_ren id) h w

theorem wless_congr {T T' : List (List Cond)} (h : PartEq T T') (w w' : World) : wless T' w w' = wless T w w' :=
  wless_sim (layerRel_ren id) h w w'

theorem lexVec_congr {T T' : List (List Cond)} (h : PartEq T T') (w : World) : lexVec T' w = lexVec T w :=
  lexVec_sim (layerRel_ren id) h w

/-- **partitions have the same shape**: re-keying / rewriting formulas changes nothing but the labels -/
theorem C12_key_formula_invariance_part (weakly : Bool) (Ω : List World) {D D' : List Cond} (h : BaseEq D D') :
    (partFor weakly Ω D = none ∧ partFor weakly Ω D' = none) ∨
    ∃ P P', partFor weakly Ω D = some P ∧ partFor weakly Ω D' = some P' ∧ PartEq P P' :=
  partFor_sim (layerRel_ren id) weakly (Transport.refl Ω) h

/-- equivalent queries get the same answers on the same base -/
theorem C12_query_equiv {q q' : Cond} (hq : VFEq q q') (Ω : List World) (lt : World → World → Bool) :
    prefEnt Ω lt q' = prefEnt Ω lt q :=
  prefEnt_ren (Transport.refl Ω) hq lt lt fun _ _ => rfl

/-- **System Z** -/
theorem C12_key_formula_invariance_Z (weakly : Bool) (Ω : List World) {D D' : List Cond} (h : BaseEq D D')
    {q q' : Cond} (hq : VFEq q q') : ansZ weakly Ω D' q' = ansZ weakly Ω D q :=
  (ans_ren weakly (Transport.refl Ω) h hq).2.1

/-- **System W** (both back-ends, both modes) -/
theorem C12_key_formula_invariance_W (weakly : Bool) (Ω : List World) {D D' : List Cond} (h : BaseEq D D')
    {q q' : Cond} (hq : VFEq q q') : ansW weakly Ω D' q' = ansW weakly Ω D q :=
  (ans_ren weakly (Transport.refl Ω) h hq).2.2.1

/-- **p-entailment** (both modes) -/
theorem C12_key_formula_invariance_P (weakly : Bool) (Ω : List World) {D D' : List Cond} (h : BaseEq D D')
    {q q' : Cond} (hq : VFEq q q') : ansP weakly Ω D' q' = ansP weakly Ω D q :=
  (ans_ren weakly (Transport.refl Ω) h hq).1

/-- **lexicographic inference** (both back-ends, both modes) -/
theorem C12_key_formula_invariance_Lex (weakly : Bool) (Ω : List World) {D D' : List Cond} (h : BaseEq D D')
    {q q' : Cond} (hq : VFEq q q') : ansLex weakly Ω D' q' = ansLex weakly Ω D q :=
  (ans_ren weakly (Transport.refl Ω) h hq).2.2.2

/-! the listing order: two bases that are permutations of each other get partitions whose layers are permutations of
each other (`PartPerm`), and every operator model gives the same answers -/
abbrev PartPerm := Rel2 (fun (a b : List Cond) => a.Perm b)

theorem tolPart_perm (Ω : List World) : ∀ (fuel : Nat) {cs cs' : List Cond}, cs.Perm cs' →
    (tolPart Ω fuel cs = none ∧ tolPart Ω fuel cs' = none) ∨
    ∃ P P', tolPart Ω fuel cs = some P ∧ tolPart Ω fuel cs' = some P' ∧ PartPerm P P' :=
  fun fuel _ _ h => tolPart_sim layerRel_perm (Transport.refl Ω) fuel h

theorem C12_order_invariance_part (weakly : Bool) (Ω : List World) {D D' : List Cond} (h : D.Perm D') :
    (partFor weakly Ω D = none ∧ partFor weakly Ω D' = none) ∨
    ∃ P P', partFor weakly Ω D = some P ∧ partFor weakly Ω D' = some P' ∧ PartPerm P P' :=
  partFor_sim layerRel_perm weakly (Transport.refl Ω) h

/-- **System Z, System W, lexicographic inference: the listing order of the base is irrelevant** (both modes) -/
theorem C12_order_invariance (weakly : Bool) (Ω : List World) {D D' : List Cond} (h : D.Perm D') (q : Cond) :
    ansZ weakly Ω D' q = ansZ weakly Ω D q ∧ ansW weakly Ω D' q = ansW weakly Ω D q ∧
    ansLex weakly Ω D' q = ansLex weakly Ω D q :=
  (ans_sim layerRel_perm weakly (Transport.refl Ω) h (VFS.refl q) (.refl _)).2

/-- p-entailment: order invariance -/
theorem C12_order_invariance_P (weakly : Bool) (Ω : List World) {D D' : List Cond} (h : D.Perm D') (q : Cond) :
    ansP weakly Ω D' q = ansP weakly Ω D q :=
  (ans_sim layerRel_perm weakly (Transport.refl Ω) h (VFS.refl q) (.refl _)).1

end InfOCF
