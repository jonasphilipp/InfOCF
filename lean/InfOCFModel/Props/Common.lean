import InfOCFModel.Ops
import InfOCFModel.Run
/-!
`wrap` answers `.val true` when no world falsifies the query and otherwise hands the finite layers and the feasible
worlds of the mode's partition to the operator body. Each body computes its specification on these (`bodyZ_eq`,
`bodyW_eq`, `bodyLex_eq`), which is preferential entailment for the operator's order; so every operator model, in both
modes, answers that over the finite layers and the feasible worlds (`wrap_eq_prefEnt`; `ansZ_eq`, `ansW_eq`, `ansLex_eq`).
The strict and the extended theorems of C02–C04 and C07 are the two instances.
-/
namespace InfOCF

theorem feasible_nil (Ω : List World) : feasible Ω [] = Ω := filter_nofal_nil Ω

theorem feasible_strict (Ω : List World) (P : List (List Cond)) : feasible Ω (infLayer false P) = Ω := feasible_nil Ω

theorem mem_feasible {Ω : List World} {inf : List Cond} {w : World} : w ∈ feasible Ω inf ↔ w ∈ Ω ∧ nofal inf w = true :=
  List.mem_filter

theorem partS_nonempty {Ω : List World} {D : List Cond} {P : List (List Cond)} (hD : D ≠ []) (h : partS Ω D = some P) :
    P ≠ [] := by
  rintro rfl
  obtain ⟨c, hc⟩ := List.exists_mem_of_ne_nil D hD
  exact nomatch ((tolPart_sound Ω D.length D [] h).2 c).mpr hc

/-- `general_inference` only asks whether some world falsifies the query (such a world satisfies the antecedent) -/
theorem trivialQ_eq (Ω : List World) (q : Cond) : trivialQ Ω q = !(Ω.any q.fal) := by
  cases hf : Ω.any q.fal
  · simp [trivialQ, hf]
  · obtain ⟨w, hw, h⟩ := List.any_eq_true.mp hf
    have : (Ω.any fun w => q.ante.eval w) = true := List.any_eq_true.mpr ⟨w, hw, Cond.ante_of_fal h⟩
    simp [trivialQ, hf, this]

theorem wrap_some (weakly : Bool) {Ω} {D : List Cond} {q body P} (hD : D ≠ []) (hP : partFor weakly Ω D = some P) :
    wrap weakly Ω D q body =
      .val (!(Ω.any q.fal) || body (finLayers weakly P) (feasible Ω (infLayer weakly P))) := by
  cases D with
  | nil => exact absurd rfl hD
  | cons a t => simp only [wrap, hP, trivialQ_eq]; cases Ω.any q.fal <;> rfl

theorem wrap_none {weakly Ω} {D : List Cond} {q body} (hD : D ≠ []) (hP : partFor weakly Ω D = none) :
    wrap weakly Ω D q body = .refuseIncons := by
  cases D with
  | nil => exact absurd rfl hD
  | cons a t => simp only [wrap, hP]

theorem wrap_refuse (weakly : Bool) (Ω : List World) (D : List Cond) (q : Cond)
    (body : List (List Cond) → List World → Bool) :
    (D = [] → wrap weakly Ω D q body = .refuseEmpty) ∧
    (D ≠ [] → partFor weakly Ω D = none → wrap weakly Ω D q body = .refuseIncons) :=
  ⟨fun h => h ▸ rfl, wrap_none⟩

theorem ans_val_cases {weakly Ω} {D : List Cond} {q body b} (h : wrap weakly Ω D q body = .val b) :
    D ≠ [] ∧ ∃ P, partFor weakly Ω D = some P := by
  have hD : D ≠ [] := by rintro rfl; cases h
  refine ⟨hD, ?_⟩
  cases hp : partFor weakly Ω D with
  | none => rw [wrap_none hD hp] at h; cases h
  | some P => exact ⟨P, rfl⟩

/-! The wrapper and the bodies ask for `Ωf.any q.fal`. Every specification says "each falsifying world is beaten by a
verifying world": an `all` over `Ωf.filter q.fal`, true when there is none. -/

/-! The vacuity check of the weakly branches (in strict mode: the wrapper's short cut) is the case without falsifying
world. Otherwise the body is its recursion (each recursion answers `false` on an empty layer list, as the `match` in
the body does). -/

theorem bodyZ_eq {weakly : Bool} {fin : List (List Cond)} {Ωf : List World} {q : Cond}
    (h : weakly = true ∨ Ωf.any q.fal = true) : bodyZ weakly fin Ωf q = specZ Ωf fin q := by
  have hdef : bodyZ weakly fin Ωf q = if weakly && !(Ωf.any q.fal) then true else algZ fin.reverse Ωf q := by
    cases fin <;> rfl
  rw [hdef]
  cases hf : Ωf.any q.fal
  · obtain rfl : weakly = true := h.resolve_right (ne_true_of_eq_false hf)
    exact (all_filter_of_any_false _ hf).symm
  · rw [Bool.not_true, Bool.and_false, if_neg Bool.false_ne_true,
      algZ_reverse_eq_specZ Ωf fin q (List.any_eq_true.mp hf)]

/-- `algWCode` answers `false` on an empty layer list, which is what its `match` on the lower layers says -/
theorem algWCode_cons (L : List Cond) (rest : List (List Cond)) (Hv Hf : List World) :
    algWCode (L :: rest) Hv Hf =
      (((famMin L Hf).all fun b => (famMin L Hv).any fun a => subsetL a b) &&
      ((famMin L Hv).filter ((famMin L Hf).contains ·)).all fun x =>
        algWCode rest (Hv.filter (fset L · == x)) (Hf.filter (fset L · == x))) := by
  rw [algWCode]
  cases (famMin L Hf).all fun b => (famMin L Hv).any fun a => subsetL a b
  · rfl
  · cases rest <;> rfl

/-- the recursion as coded (a tie at the lowest layer answers False) equals the uniform recursion as soon as some
world falsifies the query: the falsifying worlds handed down at a tie are never empty -/
theorem algWCode_eq_algW_of_fal {layers : List (List Cond)} {Hv Hf : List World} (h : Hf ≠ []) :
    algWCode layers Hv Hf = algW layers Hv Hf := by
  induction layers generalizing Hv Hf with
  | nil =>
    cases Hf with
    | nil => exact absurd rfl h
    | cons _ _ => rfl
  | cons L rest ih =>
    rw [algWCode_cons, algW]
    congr 1
    refine all_congr_mem fun x hx => ih ?_
    obtain ⟨w, hw, hfs⟩ := famMin_real (List.contains_iff_mem.mp (List.mem_filter.mp hx).2)
    exact List.ne_nil_of_mem (List.mem_filter.mpr ⟨hw, beq_iff_eq.mpr hfs⟩)

/-- … and on a non-empty layer list also when none does: there is no tie at the top layer then -/
theorem algWCode_eq_algW : ∀ (layers : List (List Cond)) (Hv Hf : List World), layers ≠ [] →
    algWCode layers Hv Hf = algW layers Hv Hf := by
  intro layers Hv Hf h
  cases Hf with
  | cons w Hf => exact algWCode_eq_algW_of_fal (List.cons_ne_nil w Hf)
  | nil =>
    cases layers with
    | nil => exact absurd rfl h
    | cons L rest =>
      have : (famMin L Hv).filter ((famMin L []).contains ·) = [] := List.filter_eq_nil_iff.mpr fun _ _ => nofun
      rw [algWCode_cons, algW, this]; rfl

theorem bodyW_eq {weakly : Bool} {fin : List (List Cond)} {Ωf : List World} {q : Cond}
    (h : weakly = true ∨ Ωf.any q.fal = true) : bodyW weakly fin Ωf q = specW' fin Ωf q := by
  have hdef : bodyW weakly fin Ωf q = if weakly && trivialQ Ωf q then true
      else algWCode fin.reverse (Ωf.filter q.ver) (Ωf.filter q.fal) := by
    cases fin <;> rfl
  rw [hdef, trivialQ_eq]
  cases hf : Ωf.any q.fal
  · obtain rfl : weakly = true := h.resolve_right (ne_true_of_eq_false hf)
    exact (all_filter_of_any_false _ hf).symm
  · rw [Bool.not_true, Bool.and_false, if_neg Bool.false_ne_true,
      algWCode_eq_algW_of_fal (filter_ne_nil_of_any hf), algW_eq_specW, specW']

/-- the model makes the three tests over the feasible worlds in both modes; `LexInf._inference` omits the third (no verifying
world) in extended mode, where the recursion answers False as well (`Xv` is empty) -/
theorem bodyLex_eq (weakly : Bool) (fin : List (List Cond)) (Ωf : List World) (q : Cond) :
    bodyLex weakly fin Ωf q = specLex' fin Ωf q := by
  have hdef : bodyLex weakly fin Ωf q = if trivialQ Ωf q then true else if !(Ωf.any q.ver) then false
      else algLex fin.reverse (Ωf.filter q.ver) (Ωf.filter q.fal) := by
    cases fin <;> rfl
  rw [hdef, trivialQ_eq]
  cases hf : Ωf.any q.fal
  · exact (all_filter_of_any_false _ hf).symm
  · have hne := filter_ne_nil_of_any hf
    rw [Bool.not_true, if_neg Bool.false_ne_true, specLex']
    cases hv : Ωf.any q.ver
    · rw [Bool.not_false, if_pos rfl, List.filter_eq_nil_iff.mpr (List.any_eq_false.mp hv), specLex_nil hne]
    · rw [Bool.not_true, if_neg Bool.false_ne_true, algLex_eq_specLex _ _ _ hne]

section
variable {weakly : Bool} {Ω : List World} {D : List Cond} {P : List (List Cond)}

/-- in strict mode the feasible worlds are all worlds; so once the wrapper has found a falsifying world the
bodies' hypothesis holds in either mode -/
theorem any_fal_feasible (q : Cond) (hf : Ω.any q.fal = true) :
    weakly = true ∨ (feasible Ω (infLayer weakly P)).any q.fal = true := by
  cases weakly
  · exact Or.inr (by rwa [feasible_strict])
  · exact Or.inl rfl

theorem any_fal_feasible_false {q : Cond} (inf : List Cond) (hf : Ω.any q.fal = false) :
    (feasible Ω inf).any q.fal = false :=
  List.any_eq_false.mpr fun w hw => List.any_eq_false.mp hf w (mem_feasible.mp hw).1

theorem wrap_eq_prefEnt {q : Cond} {body : List (List Cond) → List World → Bool}
    (lt : List (List Cond) → World → World → Bool) (hD : D ≠ []) (hP : partFor weakly Ω D = some P)
    (hbody : ∀ fin Ωf, weakly = true ∨ Ωf.any q.fal = true → body fin Ωf = prefEnt Ωf (lt fin) q) :
    wrap weakly Ω D q body = .val (prefEnt (feasible Ω (infLayer weakly P)) (lt (finLayers weakly P)) q) := by
  rw [wrap_some _ hD hP]
  cases hf : Ω.any q.fal
  · rw [prefEnt, all_filter_of_any_false _ (any_fal_feasible_false _ hf)]; rfl
  · rw [hbody _ _ (any_fal_feasible q hf)]; rfl

theorem ansZ_eq (hD : D ≠ []) (hP : partFor weakly Ω D = some P) (q : Cond) :
    ansZ weakly Ω D q = .val (specZ (feasible Ω (infLayer weakly P)) (finLayers weakly P) q) :=
  wrap_eq_prefEnt (fun fin w w' => zrk fin w < zrk fin w') hD hP fun _ _ => bodyZ_eq

theorem ansW_eq (hD : D ≠ []) (hP : partFor weakly Ω D = some P) (q : Cond) :
    ansW weakly Ω D q = .val (specW' (finLayers weakly P) (feasible Ω (infLayer weakly P)) q) :=
  wrap_eq_prefEnt (fun fin => wless fin.reverse) hD hP fun _ _ => bodyW_eq

theorem ansLex_eq (hD : D ≠ []) (hP : partFor weakly Ω D = some P) (q : Cond) :
    ansLex weakly Ω D q = .val (specLex' (finLayers weakly P) (feasible Ω (infLayer weakly P)) q) :=
  wrap_eq_prefEnt (fun fin w w' => lexLt (lexVec fin.reverse w) (lexVec fin.reverse w')) hD hP fun fin Ωf _ =>
    bodyLex_eq weakly fin Ωf q

end

end InfOCF
