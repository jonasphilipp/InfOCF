import InfOCFModel.Basic
/-!
# Integer CNFs, faithfulness of an encoding, and the RC2-side bookkeeping of `optimizer.py`

Variables `1..n` are the atoms (variable `i+1` = atom `i`), variables `n+1..n+aux` are auxiliaries
(Tseitin variables, the reserved false-variable, helper variables).
-/
namespace InfOCF

abbrev Clause := List Int
abbrev CNF := List Clause

/-- truth of a literal under an assignment given as a Boolean list (variable `v` ↦ position `v-1`) -/
def litTrue (asg : List Bool) (l : Int) : Bool :=
  if l > 0 then asg.getD (l.toNat - 1) false else !(asg.getD ((-l).toNat - 1) false)

def clauseSat (asg : List Bool) (c : Clause) : Bool := c.any (litTrue asg)
def cnfSat (asg : List Bool) (F : CNF) : Bool := F.all (clauseSat asg)

def cnfFaithfulB (n aux : Nat) (F : CNF) (sem : World → Bool) : Bool :=
  (allWorlds n).all fun w => ((allWorlds aux).any fun a => cnfSat (w ++ a) F) == sem w

def CnfFaithful (n aux : Nat) (F : CNF) (sem : World → Bool) : Prop :=
  ∀ w ∈ allWorlds n, (∃ a ∈ allWorlds aux, cnfSat (w ++ a) F = true) ↔ sem w = true

theorem cnfFaithful_check_sound (n aux : Nat) (F : CNF) (sem : World → Bool) :
    cnfFaithfulB n aux F sem = true ↔ CnfFaithful n aux F sem := by
  simp only [cnfFaithfulB, CnfFaithful, List.all_eq_true, beq_iff_eq]
  exact forall₂_congr fun w _ => by rw [Bool.eq_iff_iff, List.any_eq_true]

/-- a clause "not satisfied by the model" as the code tests it: no literal of the model occurs in it -/
def clauseViolated (model : List Int) (c : Clause) : Bool := !(model.any fun x => c.contains x)

/-- the clauses the scan visits, in dictionary order, each tagged with its conditional's key;
conditionals listed in `ignore` are skipped -/
def flatClauses (ignore : List Nat) (dict : List (Nat × CNF)) : List (Nat × Clause) :=
  (dict.filter fun p => !(ignore.contains p.1)).flatMap fun p => p.2.map fun c => (p.1, c)

/-- the scan with its early exit (`if counter == cost: return violated`, tested after every clause) -/
def violatedScan (model : List Int) (cost : Nat) : List (Nat × Clause) → Nat → List Nat → List Nat
  | [], _, acc => acc
  | (k, c) :: rest, counter, acc =>
    let viol := clauseViolated model c
    let counter' := if viol then counter + 1 else counter
    let acc' := if viol && !(acc.contains k) then acc ++ [k] else acc
    if counter' == cost then acc' else violatedScan model cost rest counter' acc'

/-- `get_violated_conditional`: nothing when cost = 0 -/
def getViolated (model : List Int) (cost : Nat) (ignore : List Nat) (dict : List (Nat × CNF)) : List Nat :=
  if cost = 0 then [] else violatedScan model cost (flatClauses ignore dict) 0 []

def violatedCount (model : List Int) (flat : List (Nat × Clause)) : Nat :=
  (flat.filter fun p => clauseViolated model p.2).length

theorem violatedCount_eq_zero {model : List Int} {flat : List (Nat × Clause)} :
    violatedCount model flat = 0 ↔ ∀ p ∈ flat, ¬clauseViolated model p.2 = true := by
  rw [violatedCount, List.length_eq_zero_iff, List.filter_eq_nil_iff]

theorem violatedScan_cons (model : List Int) (cost k : Nat) (c : Clause) (rest : List (Nat × Clause))
    (counter : Nat) (acc : List Nat) :
    ∃ counter' acc',
      violatedScan model cost ((k, c) :: rest) counter acc =
        (if counter' == cost then acc' else violatedScan model cost rest counter' acc') ∧
      counter' + violatedCount model rest = counter + violatedCount model ((k, c) :: rest) ∧
      ∀ x, x ∈ acc' ↔ x ∈ acc ∨ (k = x ∧ clauseViolated model c = true) := by
  -- the new counter and keys are read off the definition by `rfl`
  refine ⟨_, _, rfl, ?_, fun x => ?_⟩
  · show _ = _ + (List.filter _ _).length
    rw [List.filter_cons]
    cases clauseViolated model c
    · rfl
    · exact Nat.add_right_comm _ _ _
  · cases clauseViolated model c
    · simp
    · by_cases hm : k ∈ acc
      · simp [hm]; rintro rfl; exact hm
      · simp [hm, eq_comm]

theorem violatedScan_mem (model : List Int) (cost : Nat) (flat : List (Nat × Clause)) (counter : Nat) (acc : List Nat)
    (hle : counter + violatedCount model flat ≤ cost) (k : Nat) :
    k ∈ violatedScan model cost flat counter acc ↔
      (k ∈ acc ∨ ∃ p ∈ flat, p.1 = k ∧ clauseViolated model p.2 = true) := by
  induction flat generalizing counter acc with
  | nil => simp [violatedScan]
  | cons p rest ih =>
    obtain ⟨k0, c0⟩ := p
    obtain ⟨counter', acc', heq, hcnt, hacc⟩ := violatedScan_cons model cost k0 c0 rest counter acc
    rw [← hcnt] at hle
    rw [heq]
    simp only [List.mem_cons, exists_eq_or_imp]
    rw [← or_assoc, ← hacc]
    split
    · -- early exit: the counter has reached the cost, so no violated clause is left
      next hc =>
      rw [beq_iff_eq.mp hc] at hle
      have h0 := violatedCount_eq_zero.mp (Nat.le_zero.mp (Nat.le_of_add_le_add_left (c := 0) hle))
      refine (or_iff_left ?_).symm
      rintro ⟨p, hp, -, hpv⟩
      exact h0 p hp hpv
    · exact ih _ _ hle

end InfOCF
