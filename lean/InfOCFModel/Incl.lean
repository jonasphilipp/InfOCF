import InfOCFModel.W
import InfOCFModel.Lex
import InfOCFModel.Z
/-!
The inclusions between the operators. On worlds: a smaller Z-rank gives W-preference (`zrk_lt_wless`), W-preference a
lexicographically smaller vector of counts (`wless_lexLt`); hence `specZ ≤ specW ≤ specLex`. And p-entailment ≤ Z.
-/
namespace InfOCF

/-- going down from the top, the two worlds falsify nothing until the layer that gives `w'` its rank, where `w` still
falsifies nothing -/
theorem zrk_lt_wless : ∀ (Ptop : List (List Cond)) (w w' : World),
    zrk Ptop.reverse w < zrk Ptop.reverse w' → wless Ptop w w' = true := by
  intro Ptop w w'
  induction Ptop with
  | nil => exact fun h => absurd h (Nat.lt_irrefl _)
  | cons L below ih =>
    intro h
    rw [List.reverse_cons] at h
    have hw : nofal L w = true := by
      cases hw : nofal L w
      · -- otherwise `w` has the highest rank there is
        rw [zrk_snoc, hw, if_neg Bool.false_ne_true] at h
        exact absurd (Nat.lt_of_lt_of_le h (zrk_le_length _ w')) (by rw [List.length_append]; exact Nat.lt_irrefl _)
      · rfl
    rw [zrk_snoc, zrk_snoc, hw, if_pos rfl] at h
    rw [wless_cons, fset_eq_nil_iff.mpr hw]
    cases hw' : nofal L w'
    · exact .inr ⟨fun e => ne_true_of_eq_false hw' (fset_eq_nil_iff.mp e.symm), rfl⟩
    · rw [hw', if_pos rfl] at h
      exact .inl ⟨(fset_eq_nil_iff.mpr hw').symm, ih h⟩

theorem wless_lexLt : ∀ (layers : List (List Cond)) (w w' : World),
    wless layers w w' = true → lexLt (lexVec layers w) (lexVec layers w') = true := by
  intro layers
  induction layers with
  | nil => intro w w' h; cases h
  | cons L rest ih =>
    intro w w' h
    rw [lexVec_cons, lexVec_cons, lexLt_cons]
    rcases wless_cons.mp h with ⟨he, h⟩ | ⟨he, h⟩
    · exact .inr ⟨congrArg List.length he, ih w w' h⟩
    · exact .inl (Nat.lt_of_not_le fun hle => he ((fset_sublist_of_subset h).eq_of_length_le hle))

theorem specZ_le_specW (Ω : List World) (P : List (List Cond)) (q : Cond)
    (h : specZ Ω P q = true) : specW P.reverse (Ω.filter q.ver) (Ω.filter q.fal) = true := by
  -- both are `prefEnt`, and the comparison of Z-ranks is included in `wless`
  rw [specW_eq_prefEnt]
  refine prefEnt_mono (fun w w' hlt => zrk_lt_wless P.reverse w w' ?_) h
  rw [List.reverse_reverse]
  exact of_decide_eq_true hlt

theorem specW_le_specLex (layers : List (List Cond)) (Hv Hf : List World)
    (h : specW layers Hv Hf = true) : specLex layers Hv Hf = true :=
  specLex_iff.mpr fun w' hw' => (specW_iff.mp h w' hw').imp fun w hw => ⟨hw.1, wless_lexLt layers w w' hw.2⟩

theorem p_le_Z (Ω : List World) (P : List (List Cond)) (hP : IsTolPart Ω P) (q : Cond)
    (h : ∀ κ : World → Nat, Models Ω κ P.flatten → Accepts Ω κ q) :
    specZ Ω P q = true :=
  prefEnt_of_accepts (h (zrk P) (zrk_models Ω P hP))

end InfOCF
