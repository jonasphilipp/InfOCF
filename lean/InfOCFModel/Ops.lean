import InfOCFModel.Z
import InfOCFModel.Lex
import InfOCFModel.Ext
/-!
# User-callable operator models

Each `ans*` function follows the Python control flow of the corresponding operator as a user
reaches it through `InferenceManager.inference`:

* `Inference.preprocess_belief_base`  (refuse an empty base / a base without partition),
* `Inference.general_inference`       (trivial-query short cut, evaluated over *all* worlds),
* the operator's `_inference`         (strict branch or weakly branch with its vacuity checks),
* the operator's `_rec_inference`     (`algZ`, `algW`, `algLex`).

`Ω` is always the list of all worlds over the atoms in play; in extended mode the
feasible worlds are `Ω.filter (nofal inf)`.
-/
namespace InfOCF

/-- outcome of a call: the operator refuses the base, or answers -/
inductive Out where
  | refuseEmpty
  | refuseIncons
  | val (b : Bool)
deriving Repr, DecidableEq, Inhabited

/-- `general_inference`: `is_unsat(A) or is_unsat(A ∧ ¬B)` -/
def trivialQ (Ω : List World) (q : Cond) : Bool :=
  !(Ω.any fun w => q.ante.eval w) || !(Ω.any q.fal)

/-- strict partition of a base (`consistency(.., weakly=False)`) -/
def partS (Ω : List World) (D : List Cond) : Option (List (List Cond)) := tolPart Ω D.length D
/-- extended partition (`consistency(.., weakly=True)`): finite layers ++ [infinity layer] -/
def partE (Ω : List World) (D : List Cond) : Option (List (List Cond)) := tolPartExt Ω (D.length + 1) D

/-- the partition `preprocess_belief_base` demands for the selected mode -/
def partFor (weakly : Bool) (Ω : List World) (D : List Cond) : Option (List (List Cond)) :=
  if weakly then partE Ω D else partS Ω D

/-- finite layers / infinity layer / feasible worlds of a mode's partition -/
def finLayers (weakly : Bool) (P : List (List Cond)) : List (List Cond) := if weakly then P.dropLast else P
def infLayer (weakly : Bool) (P : List (List Cond)) : List Cond := if weakly then P.getLastD [] else []
def feasible (Ω : List World) (inf : List Cond) : List World := Ω.filter (nofal inf)

/-- common wrapper: refusal, then trivial-query short cut, then the operator body -/
def wrap (weakly : Bool) (Ω : List World) (D : List Cond) (q : Cond)
    (body : List (List Cond) → List World → Bool) : Out :=
  match D with
  | [] => .refuseEmpty
  | _ =>
    match partFor weakly Ω D with
    | none => .refuseIncons
    | some P =>
      if trivialQ Ω q then .val true
      else .val (body (finLayers weakly P) (feasible Ω (infLayer weakly P)))

/-! ### p-entailment -/

/-- `PEntailment._inference` (both branches) -/
def bodyP (weakly : Bool) (Ω : List World) (D : List Cond) (q : Cond) : Bool :=
  if weakly then algPExt Ω D q
  else (tolPart Ω (D.length + 1) (negq q :: D)).isNone

def ansP (weakly : Bool) (Ω : List World) (D : List Cond) (q : Cond) : Out :=
  wrap weakly Ω D q fun _ _ => bodyP weakly Ω D q

/-! ### System Z -/

/-- `SystemZ._inference`: (weakly: vacuity check on `A ∧ ¬B`, no finite layer ⇒ False) then `_rec_inference` -/
def bodyZ (weakly : Bool) (fin : List (List Cond)) (Ωf : List World) (q : Cond) : Bool :=
  if weakly && !(Ωf.any q.fal) then true
  else match fin with
    | [] => false
    | _ => algZ fin.reverse Ωf q

def ansZ (weakly : Bool) (Ω : List World) (D : List Cond) (q : Cond) : Out :=
  wrap weakly Ω D q fun fin Ωf => bodyZ weakly fin Ωf q

/-! ### System W (both back-ends share this model; the optimizer call is `famMin`) -/

/-- `_rec_inference` exactly as written: a tie at the lowest layer answers False -/
def algWCode : List (List Cond) → List World → List World → Bool
  | [], _, _ => false
  | L :: rest, Hv, Hf =>
    let Xv := famMin L Hv
    let Xf := famMin L Hf
    if !(Xf.all fun b => Xv.any fun a => subsetL a b) then false
    else (Xv.filter (Xf.contains ·)).all fun x =>
      match rest with
      | [] => false
      | _ => algWCode rest (Hv.filter (fset L · == x)) (Hf.filter (fset L · == x))

def bodyW (weakly : Bool) (fin : List (List Cond)) (Ωf : List World) (q : Cond) : Bool :=
  if weakly && (!(Ωf.any fun w => q.ante.eval w) || !(Ωf.any q.fal)) then true
  else match fin with
    | [] => false
    | _ => algWCode fin.reverse (Ωf.filter q.ver) (Ωf.filter q.fal)

def ansW (weakly : Bool) (Ω : List World) (D : List Cond) (q : Cond) : Out :=
  wrap weakly Ω D q fun fin Ωf => bodyW weakly fin Ωf q

/-! ### lexicographic inference -/

/-- the recursion as the code had it before the repair (every pair must succeed) — kept for the witness theorem -/
def algLexAllPairs : List (List Cond) → List World → List World → Bool
  | [], _, _ => false
  | L :: rest, Hv, Hf =>
    let Xv := famMin L Hv
    let Xf := famMin L Hf
    if Xv.isEmpty then false else if Xf.isEmpty then true else
    let mv := minLen Xv
    let mf := minLen Xf
    if mv < mf then true else if mf < mv then false else
    (Xv.filter (·.length == mv)).all fun xv => (Xf.filter (·.length == mf)).all fun xf =>
      algLexAllPairs rest (Hv.filter (fset L · == xv)) (Hf.filter (fset L · == xf))

/-- `LexInf._inference`: strict short cuts, weakly vacuity checks, then the recursion -/
def bodyLex (weakly : Bool) (fin : List (List Cond)) (Ωf : List World) (q : Cond) : Bool :=
  if !(Ωf.any fun w => q.ante.eval w) || !(Ωf.any q.fal) then true
  else if !(Ωf.any q.ver) then false
  else match fin with
    | [] => false
    | _ => algLex fin.reverse (Ωf.filter q.ver) (Ωf.filter q.fal)

def ansLex (weakly : Bool) (Ω : List World) (D : List Cond) (q : Cond) : Out :=
  wrap weakly Ω D q fun fin Ωf => bodyLex weakly fin Ωf q

/-! ### Specifications (the property texts) -/

/-- feasible worlds and finite layers of the selected mode, when the base is accepted -/
def modeView (weakly : Bool) (Ω : List World) (D : List Cond) : Option (List (List Cond) × List World) :=
  match D with
  | [] => none
  | _ => (partFor weakly Ω D).map fun P => (finLayers weakly P, feasible Ω (infLayer weakly P))

/-- C02/C07: rank comparison under the Z-ranking of the finite layers over feasible worlds -/
def specZ' (fin : List (List Cond)) (Ωf : List World) (q : Cond) : Bool := specZ Ωf fin q
/-- C03/C07 -/
def specW' (fin : List (List Cond)) (Ωf : List World) (q : Cond) : Bool :=
  specW fin.reverse (Ωf.filter q.ver) (Ωf.filter q.fal)
/-- C04/C07 -/
def specLex' (fin : List (List Cond)) (Ωf : List World) (q : Cond) : Bool :=
  specLex fin.reverse (Ωf.filter q.ver) (Ωf.filter q.fal)

end InfOCF
