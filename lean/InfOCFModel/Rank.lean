import InfOCFModel.Ocf
/-!
# Ranking-function operations (`inference/preocf.py`)

A total ranking is a function `κ : World → Nat` together with the world list `Ω` it is defined on.
The operations are modelled as the code performs them (scan of the world dictionary in order,
first-seen initialisation, strict comparison …).
-/
namespace InfOCF

/-- `formula_rank`: scan all worlds, keep the smallest rank among those satisfying `φ` -/
def formulaRank (Ω : List World) (κ : World → Nat) (φ : Fm) : Option Nat :=
  Ω.foldl (fun acc w =>
    if φ.eval w then
      match acc with
      | none => some (κ w)
      | some m => if κ w < m then some (κ w) else some m
    else acc) none

/-- `conditional_acceptance` from two formula ranks -/
def acceptCode (Ω : List World) (κ : World → Nat) (c : Cond) : Bool :=
  match formulaRank Ω κ (.and c.ante c.cons), formulaRank Ω κ (.and c.ante (.neg c.cons)) with
  | none, _ => false
  | some _, none => true
  | some v, some f => decide (v < f)

/-- delete the positions listed in `drop` from a world -/
def project (drop : List Nat) (w : World) : World :=
  (w.zipIdx.filter fun p => !(drop.contains p.2)).map (·.1)

/-- `marginalize`: dictionary of projected worlds, first-seen initialisation then `min`;
returned as an association list in first-seen order -/
def marginalize (Ω : List World) (κ : World → Nat) (drop : List Nat) : List (World × Nat) :=
  Ω.foldl (fun acc w =>
    let v := project drop w
    match acc.find? (·.1 == v) with
    | none => acc ++ [(v, κ w)]
    | some _ => acc.map fun p => if p.1 == v then (p.1, min p.2 (κ w)) else p) []

/-- `compute_conditionalization`: the worlds satisfying `φ`, each with its rank -/
def conditionalize (Ω : List World) (κ : World → Nat) (φ : Fm) : List (World × Nat) :=
  (Ω.filter fun w => φ.eval w).map fun w => (w, κ w)

def insertNat (a : Nat) : List Nat → List Nat
  | [] => [a]
  | b :: rest => if a < b then a :: b :: rest else if a == b then b :: rest else b :: insertNat a rest

/-- the distinct ranks in ascending order -/
def distinctRanks (Ω : List World) (κ : World → Nat) : List Nat :=
  Ω.foldl (fun acc w => insertNat (κ w) acc) []

/-- `ranks2tpo`: layers of worlds, ascending by rank -/
def ranks2tpo (Ω : List World) (κ : World → Nat) : List (List World) :=
  (distinctRanks Ω κ).map fun r => Ω.filter fun w => κ w == r

/-- `tpo2ranks` with a layer-numbering function -/
def tpo2ranks (tpo : List (List World)) (f : Nat → Nat) : List (World × Nat) :=
  tpo.zipIdx.flatMap fun p => p.1.map fun w => (w, f p.2)

/-! ### System Z ranking object -/

/-- `_rec_z_rank`, layers top-first: the first (highest) layer with a falsified conditional decides -/
def recZ : List (List Cond) → World → Nat
  | [], _ => 0
  | L :: lower, w => if L.any (·.fal w) then lower.length + 1 else recZ lower w

/-- rank assigned by the ranking object: `P` is the partition as stored (bottom-first; in extended
mode its last element is the infinity layer) -/
def zObjRank (P : List (List Cond)) (w : World) : Nat := recZ P.reverse w

end InfOCF
