import InfOCFModel.Ops
/-!
# The manager as a state machine (`InferenceManager.inference`, `Inference.inference`)

State carried between calls in `epistemic_state`: the preprocessing flag with the cached partition,
the query slot of the CNF dictionaries (overwritten by every query) and the size of the id pool
(grows with every query). A new operator instance is created per call; preprocessing is skipped
when the flag is set. Results are collected in a dictionary and the table is rebuilt from it.
-/
namespace InfOCF

abbrev Body := Cond → List (List Cond) → List World → Bool

structure QEntry where
  key : Nat
  text : String
  q : Cond
deriving Repr, DecidableEq

structure Row where
  key : Nat
  text : String
  result : Out
deriving Repr, DecidableEq

structure MState where
  pre : Option (Option (List (List Cond)))  -- `none`: not preprocessed; `some r`: cached partition (or refusal)
  slot : Option Cond                        -- query slot of the CNF dictionaries
  pool : Nat                                -- number of ids handed out so far
deriving Repr

def MState.init : MState := ⟨none, none, 0⟩

/-- the wrapper with the partition supplied from the cache instead of being recomputed -/
def wrapWith (weakly : Bool) (Ω : List World) (D : List Cond) (cached : Option (List (List Cond))) (q : Cond)
    (body : List (List Cond) → List World → Bool) : Out :=
  match D with
  | [] => .refuseEmpty
  | _ =>
    match cached with
    | none => .refuseIncons
    | some P =>
      if trivialQ Ω q then .val true
      else .val (body (finLayers weakly P) (feasible Ω (infLayer weakly P)))

theorem wrapWith_fresh (weakly : Bool) (Ω : List World) (D : List Cond) (q : Cond) (body) :
    wrapWith weakly Ω D (partFor weakly Ω D) q body = wrap weakly Ω D q body := by
  cases D <;> rfl

def MState.preprocess (weakly : Bool) (Ω : List World) (D : List Cond) (s : MState) : MState :=
  match s.pre with
  | some _ => s
  | none => { s with pre := some (partFor weakly Ω D) }

def askOne (weakly : Bool) (Ω : List World) (D : List Cond)
    (body : Body) (s : MState) (q : Cond) : MState × Out :=
  let cached := match s.pre with | some r => r | none => none
  ({ s with slot := some q, pool := s.pool + 1 }, wrapWith weakly Ω D cached q (body q))

/-- sequential evaluation: results dictionary keyed by the query key (later writes win) -/
def evalSeq (weakly : Bool) (Ω : List World) (D : List Cond) (body : Body) :
    MState → List QEntry → MState × List (Nat × Out)
  | s, [] => (s, [])
  | s, e :: rest =>
    let (s1, r) := askOne weakly Ω D body s e.q
    let (s2, rs) := evalSeq weakly Ω D body s1 rest
    (s2, (e.key, r) :: rs)

/-- parallel evaluation: every worker starts from a copy of the state; the manager's state is not
changed by the workers -/
def evalPar (weakly : Bool) (Ω : List World) (D : List Cond) (body : Body) (s : MState) (batch : List QEntry) :
    MState × List (Nat × Out) :=
  (s, batch.map fun e => (e.key, (askOne weakly Ω D body s e.q).2))

def dictGet (d : List (Nat × Out)) (k : Nat) : Option Out := (d.find? (·.1 == k)).map (·.2)

/-- last write wins, as in a Python dict -/
def dictOf (l : List (Nat × Out)) : List (Nat × Out) := l.reverse

/-- the table: one row per submitted query, looked up by key -/
def tableOf (results : List (Nat × Out)) (batch : List QEntry) : List Row :=
  batch.map fun e => ⟨e.key, e.text, (dictGet (dictOf results) e.key).getD .refuseEmpty⟩

/-- one `InferenceManager.inference` call -/
def call (weakly : Bool) (Ω : List World) (D : List Cond) (body : Body) (s : MState) (batch : List QEntry) (parallel : Bool) :
    MState × List Row :=
  let s0 := s.preprocess weakly Ω D
  let (s1, res) := if parallel then evalPar weakly Ω D body s0 batch else evalSeq weakly Ω D body s0 batch
  (s1, tableOf res batch)

def runCalls (weakly : Bool) (Ω : List World) (D : List Cond) (body : Body) :
    MState → List (List QEntry × Bool) → List (List Row)
  | _, [] => []
  | s, (b, par) :: rest =>
    let r := call weakly Ω D body s b par
    r.2 :: runCalls weakly Ω D body r.1 rest

/-! the plumbing before the repair: results keyed by the query *text* -/
def dictGetS (d : List (String × (Nat × Out))) (k : String) : Option (Nat × Out) := (d.find? (·.1 == k)).map (·.2)

def tableOfText (results : List (String × (Nat × Out))) (batch : List QEntry) : List Row :=
  batch.map fun e =>
    let r := (dictGetS results.reverse e.text).getD (0, .refuseEmpty)
    ⟨r.1, e.text, r.2⟩

end InfOCF
