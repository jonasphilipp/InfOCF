import InfOCFModel.Ext
/-!
# The greedy layer run, declaratively

`GreedyRun Ω cs fin rem`: starting from the conditionals `cs`, repeatedly splitting off the
(non-empty) layer of *all* remaining conditionals tolerated by the remaining ones produces the
layers `fin` and leaves the remainder `rem`. A run may stop at any layer boundary; that it is complete is the separate
hypothesis `NoneTol Ω rem`. Both `tolPart` (strict) and `tolPartExt` (extended)
are characterised through it, for any fuel that suffices; everything else about them is proved about runs.
-/
namespace InfOCF

def GreedyRun (Ω : List World) : List Cond → List (List Cond) → List Cond → Prop
  | cs, [], rem => rem = cs
  | cs, L :: rest, rem =>
    L ≠ [] ∧ L = cs.filter (tolerated Ω cs) ∧
      GreedyRun Ω (cs.filter fun c => !(tolerated Ω cs c)) rest rem

def NoneTol (Ω : List World) (S : List Cond) : Prop := S.filter (tolerated Ω S) = []

theorem NoneTol_nil (Ω : List World) : NoneTol Ω [] := rfl

theorem NoneTol_iff {Ω : List World} {S : List Cond} : NoneTol Ω S ↔ ∀ c ∈ S, tolerated Ω S c = false := by
  simp only [NoneTol, List.filter_eq_nil_iff, Bool.not_eq_true]

theorem NoneTol.stuck {Ω : List World} {S : List Cond} (h : NoneTol Ω S) (hne : S ≠ []) : Stuck Ω S :=
  ⟨hne, fun c hc ht => ne_true_of_eq_false (NoneTol_iff.mp h c hc) (tolerated_iff.mpr ht)⟩

theorem GreedyRun_noneTol {Ω : List World} {cs rem : List Cond} {fin : List (List Cond)} (h : NoneTol Ω cs) :
    GreedyRun Ω cs fin rem ↔ fin = [] ∧ rem = cs := by
  cases fin with
  | nil => exact ⟨fun hr => ⟨rfl, hr⟩, fun hr => hr.2⟩
  | cons L rest => exact ⟨fun hr => absurd (hr.2.1.trans h) hr.1, fun hr => nomatch hr.1⟩

theorem rest_length_lt {Ω : List World} {cs : List Cond} (h : ¬ NoneTol Ω cs) :
    (cs.filter fun c => !(tolerated Ω cs c)).length < cs.length := by
  obtain ⟨c, hc⟩ := List.exists_mem_of_ne_nil _ h
  have := List.mem_filter.mp hc
  exact List.length_filter_lt_length_iff_exists.mpr ⟨c, this.1, by simp [this.2]⟩

theorem GreedyRun_det {Ω : List World} {fin fin' : List (List Cond)} {cs rem rem' : List Cond}
    (h : GreedyRun Ω cs fin rem) (h' : GreedyRun Ω cs fin' rem') (hn : NoneTol Ω rem) (hn' : NoneTol Ω rem') :
    fin = fin' ∧ rem = rem' := by
  induction fin generalizing fin' cs with
  | nil =>
    have := (GreedyRun_noneTol (h ▸ hn)).mp h'
    exact ⟨this.1.symm, Eq.trans h this.2.symm⟩
  | cons L rest ih =>
    cases fin' with
    | nil => exact nomatch ((GreedyRun_noneTol (h' ▸ hn')).mp h).1
    | cons L' rest' =>
      obtain ⟨rfl, rfl⟩ := ih h.2.2 h'.2.2
      exact ⟨by rw [h.2.1, h'.2.1], rfl⟩

theorem GreedyRun_exists (Ω : List World) (cs : List Cond) :
    ∃ fin rem, GreedyRun Ω cs fin rem ∧ NoneTol Ω rem := by
  by_cases hR : NoneTol Ω cs
  · exact ⟨[], cs, rfl, hR⟩
  · obtain ⟨fin, rem, hrun, hn⟩ := GreedyRun_exists Ω (cs.filter fun c => !(tolerated Ω cs c))
    exact ⟨_ :: fin, rem, ⟨hR, rfl, hrun⟩, hn⟩
termination_by cs.length
decreasing_by exact rest_length_lt hR

theorem GreedyRun_perm {Ω : List World} {fin : List (List Cond)} {cs rem : List Cond}
    (h : GreedyRun Ω cs fin rem) : (fin.flatten ++ rem).Perm cs := by
  induction fin generalizing cs with
  | nil => exact h ▸ List.Perm.refl _
  | cons L rest ih =>
    rw [List.flatten_cons, List.append_assoc, h.2.1]
    exact ((ih h.2.2).append_left _).trans (List.filter_append_perm _ _)

theorem GreedyRun_mem {Ω : List World} {fin : List (List Cond)} {cs rem : List Cond}
    (h : GreedyRun Ω cs fin rem) (c : Cond) : c ∈ cs ↔ (c ∈ fin.flatten ∨ c ∈ rem) :=
  (GreedyRun_perm h).mem_iff.symm.trans List.mem_append

theorem GreedyRun_rem_sub {Ω : List World} {fin : List (List Cond)} {cs rem : List Cond} (h : GreedyRun Ω cs fin rem) :
    ∀ c ∈ rem, c ∈ cs := fun c hc => (GreedyRun_mem h c).mpr (Or.inr hc)

/-- a conditional that can never be verified (e.g. `(⊥|¬φ)` for a fact φ) always ends in the remainder -/
theorem GreedyRun_unverifiable {Ω : List World} {fin : List (List Cond)} {cs rem : List Cond}
    (h : GreedyRun Ω cs fin rem) (c : Cond) (hc : c ∈ cs) (hv : ∀ w ∈ Ω, c.ver w = false) : c ∈ rem := by
  induction fin generalizing cs with
  | nil => exact h ▸ hc
  | cons L rest ih =>
    -- never verified, so never tolerated: `c` stays among the conditionals handed to the next round
    have ht : tolerated Ω cs c = false := Bool.eq_false_iff.mpr fun ht => by
      obtain ⟨w, hw, hver, _⟩ := tolerated_iff.mp ht
      exact ne_true_of_eq_false (hv w hw) hver
    exact ih h.2.2 (List.mem_filter.mpr ⟨hc, by rw [ht]; rfl⟩)

theorem GreedyRun_max (Ω : List World) : ∀ (fin : List (List Cond)) (cs rem S : List Cond),
    GreedyRun Ω cs fin rem → (∀ c ∈ S, c ∈ cs) → (∀ c ∈ S, tolerated Ω S c = false) → ∀ c ∈ S, c ∈ rem := by
  intro fin cs rem S h hsub hint
  induction fin generalizing cs with
  | nil => exact h ▸ hsub
  | cons L rest ih =>
    refine ih _ h.2.2 fun d hd => List.mem_filter.mpr ⟨hsub d hd, ?_⟩
    rw [tolerated_false_mono (hint d hd) hsub]; rfl

theorem GreedyRun_isTolPart {Ω : List World} {fin : List (List Cond)} {cs rem : List Cond}
    (h : GreedyRun Ω cs fin rem) : IsTolPart (Ω.filter (nofal rem)) fin := by
  induction fin generalizing cs with
  | nil => trivial
  | cons L rest ih =>
    refine ⟨h.1, fun c hc => ?_, ih h.2.2⟩
    -- the world that tolerates `c` falsifies nothing in `cs`, which holds the later layers and the remainder
    obtain ⟨w, hw, hver, hnf⟩ := tolerated_iff.mp (List.mem_filter.mp (h.2.1 ▸ hc)).2
    have hmem := GreedyRun_mem h
    exact ⟨w, List.mem_filter.mpr ⟨hw, nofal_iff_forall.mpr fun d hd => hnf d ((hmem d).mpr (Or.inr hd))⟩, hver,
      fun d hd => hnf d ((hmem d).mpr (Or.inl hd))⟩

/-- the loop shared by `tolPart` and `tolPartExt`: split off layers while some conditional is tolerated, then let
`verdict` decide about the remainder -/
def greedy (Ω : List World) (verdict : List Cond → Option (List (List Cond))) :
    Nat → List Cond → Option (List (List Cond))
  | 0, cs => if cs.isEmpty then verdict cs else none
  | fuel+1, cs =>
    if (cs.filter (tolerated Ω cs)).isEmpty then verdict cs
    else (greedy Ω verdict fuel (cs.filter fun c => !(tolerated Ω cs c))).map (cs.filter (tolerated Ω cs) :: ·)

theorem tolPart_eq_greedy (Ω : List World) (fuel : Nat) (cs : List Cond) :
    tolPart Ω fuel cs = greedy Ω (fun r => if r.isEmpty then some [] else none) fuel cs := by
  induction fuel generalizing cs with
  | zero => cases cs <;> rfl
  | succ n ih =>
    cases cs with
    | nil => rfl
    | cons c t =>
      rw [tolPart, greedy, ih]
      · rfl
      · exact List.cons_ne_nil c t

theorem tolPartExt_eq_greedy (Ω : List World) (fuel : Nat) (cs : List Cond) :
    tolPartExt Ω fuel cs = greedy Ω (fun r => if r.isEmpty || Ω.any (nofal r) then some [r] else none) fuel cs := by
  induction fuel generalizing cs with
  | zero => cases cs <;> rfl
  | succ n ih =>
    cases cs with
    | nil => rfl
    | cons c t =>
      rw [tolPartExt, greedy, ih]
      · rfl
      · exact List.cons_ne_nil c t

theorem greedy_some {Ω : List World} {f : List Cond → Option (List (List Cond))} {fuel : Nat} {cs : List Cond}
    {P : List (List Cond)} (h : greedy Ω f fuel cs = some P) :
    ∃ fin rem P', GreedyRun Ω cs fin rem ∧ NoneTol Ω rem ∧ f rem = some P' ∧ P = fin ++ P' := by
  fun_induction greedy Ω f fuel cs generalizing P with
  | case1 cs he => exact ⟨[], cs, P, rfl, List.isEmpty_iff.mp he ▸ NoneTol_nil Ω, h, rfl⟩
  | case2 => cases h
  | case3 fuel cs hR => exact ⟨[], cs, P, rfl, List.isEmpty_iff.mp hR, h, rfl⟩
  | case4 fuel cs hR ih =>
    obtain ⟨P1, hP1, rfl⟩ := Option.map_eq_some_iff.mp h
    obtain ⟨fin, rem, P', hrun, hn, hf, rfl⟩ := ih hP1
    exact ⟨_ :: fin, rem, P', ⟨mt List.isEmpty_iff.mpr hR, rfl, hrun⟩, hn, hf, rfl⟩

/-- every round takes at least one conditional away (`rest_length_lt`), so fuel `cs.length` completes the run -/
theorem greedy_of_run {Ω : List World} (f : List Cond → Option (List (List Cond))) {fin : List (List Cond)}
    {cs rem : List Cond} {fuel : Nat} (hrun : GreedyRun Ω cs fin rem) (hn : NoneTol Ω rem)
    (hl : cs.length ≤ fuel) : greedy Ω f fuel cs = (f rem).map (fin ++ ·) := by
  induction fin generalizing cs fuel with
  | nil =>
    obtain rfl : rem = cs := hrun
    refine Eq.trans ?_ Option.map_id'.symm
    cases fuel with
    | zero => rw [List.eq_nil_of_length_eq_zero (Nat.le_zero.mp hl)]; rfl
    | succ n => rw [greedy, show rem.filter (tolerated Ω rem) = [] from hn]; rfl
  | cons L rest ih =>
    obtain ⟨hne, hL, hrun'⟩ := hrun
    have hlt := Nat.lt_of_lt_of_le (rest_length_lt fun hn => hne (hL.trans hn)) hl
    cases fuel with
    | zero => exact nomatch hlt
    | succ n =>
      rw [greedy, ← hL, if_neg (mt List.isEmpty_iff.mp hne), ih hrun' (Nat.le_of_lt_succ hlt), Option.map_map]
      rfl

theorem tolPart_run {Ω : List World} {fuel : Nat} {cs : List Cond} {P : List (List Cond)}
    (h : tolPart Ω fuel cs = some P) : GreedyRun Ω cs P [] := by
  obtain ⟨fin, rem, P', hrun, _, hf, rfl⟩ := greedy_some (tolPart_eq_greedy Ω fuel cs ▸ h)
  split at hf
  · next he =>
    obtain rfl := List.isEmpty_iff.mp he
    obtain rfl := Option.some.inj hf
    rwa [List.append_nil]
  · cases hf

theorem tolPart_of_run {Ω : List World} {cs rem : List Cond} {fin : List (List Cond)} {fuel : Nat}
    (hrun : GreedyRun Ω cs fin rem) (hn : NoneTol Ω rem) (hl : cs.length ≤ fuel) :
    tolPart Ω fuel cs = if rem.isEmpty then some fin else none := by
  rw [tolPart_eq_greedy, greedy_of_run _ hrun hn hl]
  cases rem with
  | nil => exact congrArg some (List.append_nil fin)
  | cons _ _ => rfl

theorem tolPart_iff_run (Ω : List World) (fuel : Nat) (cs : List Cond) (P : List (List Cond))
    (h : cs.length ≤ fuel) : tolPart Ω fuel cs = some P ↔ GreedyRun Ω cs P [] :=
  ⟨tolPart_run, fun hrun => tolPart_of_run hrun (NoneTol_nil Ω) h⟩

theorem tolPartExt_of_run {Ω : List World} {cs rem : List Cond} {fin : List (List Cond)} {fuel : Nat}
    (hrun : GreedyRun Ω cs fin rem) (hn : NoneTol Ω rem) (hl : cs.length ≤ fuel) :
    tolPartExt Ω fuel cs = if rem.isEmpty || Ω.any (nofal rem) then some (fin ++ [rem]) else none := by
  rw [tolPartExt_eq_greedy, greedy_of_run _ hrun hn hl]
  cases rem.isEmpty || Ω.any (nofal rem) <;> rfl

theorem tolPartExt_iff_run (Ω : List World) (fuel : Nat) (cs : List Cond) (P : List (List Cond))
    (h : cs.length ≤ fuel) : tolPartExt Ω fuel cs = some P ↔
      ∃ fin rem, P = fin ++ [rem] ∧ GreedyRun Ω cs fin rem ∧ NoneTol Ω rem ∧
        (rem = [] ∨ ∃ w ∈ Ω, nofal rem w = true) := by
  have hv : ∀ r : List Cond, (r.isEmpty || Ω.any (nofal r)) = true ↔ r = [] ∨ ∃ w ∈ Ω, nofal r w = true := fun r => by
    rw [Bool.or_eq_true, List.isEmpty_iff, List.any_eq_true]
  constructor
  · intro hP
    obtain ⟨fin, rem, P', hrun, hn, hf, rfl⟩ := greedy_some (tolPartExt_eq_greedy Ω fuel cs ▸ hP)
    split at hf
    · next he =>
      obtain rfl := Option.some.inj hf
      exact ⟨fin, rem, rfl, hrun, hn, (hv rem).mp he⟩
    · cases hf
  · rintro ⟨fin, rem, rfl, hrun, hn, hw⟩
    rw [tolPartExt_of_run hrun hn h, if_pos ((hv rem).mpr hw)]

theorem tolPart_sound (Ω : List World) : ∀ (fuel : Nat) (cs : List Cond) (P),
    tolPart Ω fuel cs = some P → IsTolPart Ω P ∧ (∀ c, c ∈ P.flatten ↔ c ∈ cs) := by
  intro fuel cs P h
  have hrun := tolPart_run h
  refine ⟨?_, fun c => (List.append_nil P.flatten ▸ GreedyRun_perm hrun).mem_iff⟩
  have := GreedyRun_isTolPart hrun
  rwa [filter_nofal_nil] at this

theorem tolPart_none_stuck (Ω : List World) : ∀ (fuel : Nat) (cs : List Cond),
    cs.length ≤ fuel → tolPart Ω fuel cs = none → ∃ S, (∀ c ∈ S, c ∈ cs) ∧ Stuck Ω S := by
  intro fuel cs hl h
  obtain ⟨fin, rem, hrun, hn⟩ := GreedyRun_exists Ω cs
  refine ⟨rem, GreedyRun_rem_sub hrun, hn.stuck ?_⟩
  rintro rfl
  rw [tolPart_of_run hrun hn hl] at h; cases h

end InfOCF
