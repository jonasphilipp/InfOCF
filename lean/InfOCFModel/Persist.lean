import InfOCFModel.Basic
/-!
# Persistence of ranking objects (`save_ocf`, `load_ocf`, impacts export/import)

The byte-level encoding (pickle / json) and the file system are parameters: `ser` / `deser` with the
assumption that decoding an encoded state gives that state back, and a write that may fail after any
number of bytes.
-/
namespace InfOCF

structure PObj where
  signature : Nat
  P : List (List Cond)            -- partition (System Z objects)
  impacts : List Int              -- impact vector (c-representation objects)
  cache : List (World × Nat)      -- ranks computed so far
  metadata : List (String × String)
  solver : Option Nat             -- the non-picklable members (`_optimizer`, `_csp`): attached or not
deriving Repr, DecidableEq

/-- `save_ocf`: detach the solver members, serialise, write (may fail after `k` bytes), and restore the
members in the `finally` block; returns the in-memory object afterwards and what reached the file -/
def saveOcf (ser : PObj → List Nat) (failAfter : Option Nat) (o : PObj) : PObj × Option (List Nat) :=
  let backup := o.solver
  let detached := { o with solver := none }
  let bytes := ser detached
  let written := match failAfter with
    | some k => if k < bytes.length then none else some bytes
    | none => some bytes
  ({ detached with solver := backup }, written)

/-- `load_ocf` -/
def loadOcf (deser : List Nat → Option PObj) (file : List Nat) : Option PObj :=
  (deser file).map fun o => { o with solver := none }

/-- exported impact record -/
structure ImpactFile where
  impacts : List Int
  count : Nat
deriving Repr, DecidableEq

def exportImpacts (o : PObj) (nConds : Nat) : ImpactFile := ⟨o.impacts, nConds⟩

/-- `import_impacts`: the recorded size must match the number of conditionals -/
def importImpacts (f : ImpactFile) (nConds : Nat) (o : PObj) : Option PObj :=
  if f.count = nConds then some { o with impacts := f.impacts } else none

/-- `load_impacts` (list): length must match, all values non-negative -/
def loadImpactsList (l : List Int) (nConds : Nat) (o : PObj) : Option PObj :=
  if l.length = nConds ∧ l.all (fun x => decide (0 ≤ x)) then some { o with impacts := l } else none

end InfOCF
