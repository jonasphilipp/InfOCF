import InfOCFModel.Basic
/-! What the definitions of `Basic.lean` compute (worlds, verification and falsification, `nofal`, `tolerated`);
tolerance partitions and stuck sets. -/
namespace InfOCF

theorem mem_allWorlds {n : Nat} {w : World} : w ∈ allWorlds n ↔ w.length = n := by
  induction n generalizing w with
  | zero => rw [allWorlds, List.mem_singleton, List.length_eq_zero_iff]
  | succ n ih =>
    rw [allWorlds, List.mem_flatMap]
    cases w with
    | nil => simp
    | cons b t =>
      rw [List.length_cons, Nat.succ_inj, ← ih]
      cases b <;> simp

theorem Cond.ante_of_ver {c : Cond} {w : World} (h : c.ver w = true) : c.ante.eval w = true :=
  (Bool.and_eq_true_iff.mp h).1

theorem Cond.ante_of_fal {c : Cond} {w : World} (h : c.fal w = true) : c.ante.eval w = true :=
  (Bool.and_eq_true_iff.mp h).1

theorem Cond.not_ver_of_fal {c : Cond} {w : World} (h : c.fal w = true) : c.ver w = false := by
  simp only [Cond.fal, Cond.ver, Bool.and_eq_true, Bool.not_eq_true'] at h ⊢; simp [h.2]

theorem Cond.fal_of_ver {c : Cond} {w : World} (h : c.ver w = true) : c.fal w = false := by
  simp only [Cond.ver, Cond.fal, Bool.and_eq_true] at h ⊢; simp [h.2]

theorem ver_or_fal (q : Cond) {w : World} (h : q.ante.eval w = true) : q.ver w = true ∨ q.fal w = true := by
  cases hb : q.cons.eval w <;> simp [Cond.ver, Cond.fal, h, hb]

theorem ante_of_vf (q : Cond) (w : World) : q.ante.eval w = (q.ver w || q.fal w) := by
  simp only [Cond.ver, Cond.fal]; cases q.ante.eval w <;> cases q.cons.eval w <;> rfl

theorem nofal_nil (w : World) : nofal [] w = true := rfl

theorem filter_nofal_nil (Ω : List World) : Ω.filter (nofal []) = Ω := List.filter_eq_self.mpr fun _ _ => rfl

theorem nofal_iff_forall {cs : List Cond} {w : World} : nofal cs w = true ↔ ∀ c ∈ cs, c.fal w = false := by
  simp only [nofal, List.all_eq_true, Bool.not_eq_true']

theorem nofal_eq_not_any (L : List Cond) (w : World) : nofal L w = !(L.any (·.fal w)) := List.not_any_eq_all_not.symm

theorem nofal_append (a b : List Cond) (w : World) : nofal (a ++ b) w = (nofal a w && nofal b w) :=
  List.all_append

theorem nofal_of_subset {a b : List Cond} {w : World} (h : nofal b w = true) (hs : ∀ c ∈ a, c ∈ b) : nofal a w = true :=
  nofal_iff_forall.mpr fun c hc => nofal_iff_forall.mp h c (hs c hc)

def Tol (Ω : List World) (cs : List Cond) (c : Cond) : Prop :=
  ∃ w ∈ Ω, c.ver w = true ∧ ∀ d ∈ cs, d.fal w = false

theorem tolerated_iff {Ω cs c} : tolerated Ω cs c = true ↔ Tol Ω cs c := by
  simp only [tolerated, Tol, List.any_eq_true, Bool.and_eq_true, nofal_iff_forall]

theorem Tol.mono {Ω cs cs' c} (h : Tol Ω cs c) (hs : ∀ d ∈ cs', d ∈ cs) : Tol Ω cs' c := by
  obtain ⟨w, hw, hv, hf⟩ := h
  exact ⟨w, hw, hv, fun d hd => hf d (hs d hd)⟩

theorem tolerated_mono {Ω : List World} {cs S : List Cond} {c : Cond} (h : tolerated Ω cs c = true)
    (hs : ∀ d ∈ S, d ∈ cs) : tolerated Ω S c = true :=
  tolerated_iff.mpr ((tolerated_iff.mp h).mono hs)

theorem tolerated_false_mono {Ω : List World} {cs S : List Cond} {c : Cond} (h : tolerated Ω S c = false)
    (hs : ∀ d ∈ S, d ∈ cs) : tolerated Ω cs c = false :=
  Bool.eq_false_iff.mpr fun ht => Bool.eq_false_iff.mp h (tolerated_mono ht hs)

def IsTolPart (Ω : List World) : List (List Cond) → Prop
  | [] => True
  | L :: rest => L ≠ [] ∧ (∀ c ∈ L, Tol Ω (L ++ rest.flatten) c) ∧ IsTolPart Ω rest

def Stuck (Ω : List World) (S : List Cond) : Prop :=
  S ≠ [] ∧ ∀ c ∈ S, ¬ Tol Ω S c

theorem Stuck.falsifies {Ω : List World} {S : List Cond} (hS : Stuck Ω S) {w : World} (hw : w ∈ Ω) {c : Cond}
    (hc : c ∈ S) (ha : c.ante.eval w = true) : ∃ d ∈ S, d.fal w = true :=
  Classical.byContradiction fun hn => hS.2 c hc ⟨w, hw, (ver_or_fal c ha).resolve_right fun h => hn ⟨c, hc, h⟩,
    fun d hd => Bool.eq_false_iff.mpr fun h => hn ⟨d, hd, h⟩⟩

theorem stuck_no_part (Ω : List World) (S : List Cond) (hS : Stuck Ω S) :
    ∀ (P : List (List Cond)), IsTolPart Ω P → (∀ c ∈ S, c ∈ P.flatten) → False := by
  intro P
  induction P with
  | nil =>
    intro _ h
    obtain ⟨c, hc⟩ := List.exists_mem_of_ne_nil S hS.1
    exact nomatch h c hc
  | cons L rest ih =>
    intro hP hsub
    obtain ⟨_, hL, hrest⟩ := hP
    -- a member of `S` in the first layer would be tolerated by `S`; otherwise `S` lies in the later layers
    by_cases hx : ∃ c ∈ S, c ∈ L
    · obtain ⟨c, hcS, hcL⟩ := hx
      exact hS.2 c hcS ((hL c hcL).mono hsub)
    · exact ih hrest fun c hc => (List.mem_append.mp (hsub c hc)).resolve_left fun h => hx ⟨c, hc, h⟩

end InfOCF
