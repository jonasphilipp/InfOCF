import InfOCFModel.Ops
/-! Model of `consistency_diagnostics` and of fact augmentation. -/
namespace InfOCF

structure Diag where
  facts : Option Bool
  bb : Option Bool
  bbw : Option Bool
  comb : Option Bool
  infinc : Option Bool
deriving Repr, DecidableEq

/-- `(Bottom | ¬φ)` -/
def factCond (k : Nat) (φ : Fm) : Cond := ⟨.bot, .neg φ, k⟩

def maxKey (D : List Cond) : Nat := D.foldl (fun m c => max m c.key) 0

/-- `augment_belief_base_with_facts`: keys continue after the largest existing key -/
def augment (D : List Cond) (facts : List Fm) : List Cond :=
  D ++ facts.zipIdx.map fun p => factCond (maxKey D + 1 + p.2) p.1

def lastSize (P : List (List Cond)) : Nat := (P.getLastD []).length

def factsSat (Ω : List World) (facts : List Fm) : Bool := Ω.any fun w => facts.all (·.eval w)

/-- what the code computes (at most two partition runs; `consistent` read off the extended run) -/
def diagCode (ext usesFacts : Bool) (Ω : List World) (D : List Cond) (facts : List Fm) : Diag :=
  let f := if usesFacts then some (factsSat Ω facts) else none
  let baseE := if ext then partE Ω D else none
  let bb := if ext then (match baseE with | none => some false | some P => some (lastSize P == 0))
            else some (partS Ω D).isSome
  let bbw := if ext then some baseE.isSome else none
  let comb := if usesFacts then some (partFor ext Ω (augment D facts)).isSome else none
  let infinc :=
    if usesFacts && ext then
      match partE Ω (augment D facts), baseE with
      | some Pc, some Pb => some (decide (lastSize Pc > lastSize Pb))
      | _, _ => none
    else none
  ⟨f, bb, bbw, comb, infinc⟩

/-- the flags by their definitions -/
def diagSpec (ext usesFacts : Bool) (Ω : List World) (D : List Cond) (facts : List Fm) : Diag :=
  ⟨if usesFacts then some (factsSat Ω facts) else none,
   some (partS Ω D).isSome,
   if ext then some (partE Ω D).isSome else none,
   if usesFacts then some (partFor ext Ω (augment D facts)).isSome else none,
   if usesFacts && ext then
     match partE Ω (augment D facts), partE Ω D with
     | some Pc, some Pb => some (decide (lastSize Pc > lastSize Pb))
     | _, _ => none
   else none⟩

end InfOCF
