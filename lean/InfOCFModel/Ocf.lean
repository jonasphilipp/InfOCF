import InfOCFModel.Tol
import InfOCFModel.Lists
/-!
Ranking functions on worlds: acceptance of a conditional, ranking models of a base, and the Z-ranking `zrk` read off a
list of layers. A tolerance partition's Z-ranking is a model of it (`zrk_models`); a stuck subset of `D ∪ {(¬B|A)}`
forces every model of `D` to accept `(B|A)`, and a tolerance partition of it gives a model that does not.

`prefEnt`: every falsifying world has a verifying world before it in a given comparison; for the comparison of ranks
this is acceptance (`accepts_iff_prefEnt`). Acceptance is also a comparison of two optional minima
(`accepts_iff_optLt`), the form in which the code and the compiled constraints test it.
-/
namespace InfOCF

def Accepts (Ω : List World) (κ : World → Nat) (c : Cond) : Prop :=
  ∃ w ∈ Ω, c.ver w = true ∧ ∀ w' ∈ Ω, c.fal w' = true → κ w < κ w'
def Models (Ω : List World) (κ : World → Nat) (D : List Cond) : Prop := ∀ c ∈ D, Accepts Ω κ c

def negq (q : Cond) : Cond := ⟨.neg q.cons, q.ante, 0⟩
@[simp] theorem negq_ver (q : Cond) (w) : (negq q).ver w = q.fal w := by simp [negq, Cond.ver, Cond.fal, Fm.eval]
@[simp] theorem negq_fal (q : Cond) (w) : (negq q).fal w = q.ver w := by simp [negq, Cond.ver, Cond.fal, Fm.eval]

/-- bottom-first layers -/
def zrk : List (List Cond) → World → Nat
  | [], _ => 0
  | L :: rest, w =>
    let r := zrk rest w
    if r ≠ 0 then r + 1 else if L.any (·.fal w) then 1 else 0

theorem zrk_cons_of_ne_zero {L : List Cond} {rest : List (List Cond)} {w : World} (h : zrk rest w ≠ 0) :
    zrk (L :: rest) w = zrk rest w + 1 := by
  simp only [zrk, h, ne_eq, not_false_eq_true, if_true]

theorem zrk_cons_of_zero (L : List Cond) {rest : List (List Cond)} {w : World} (h : zrk rest w = 0) :
    zrk (L :: rest) w = if L.any (·.fal w) then 1 else 0 := by
  simp only [zrk, h, ne_eq, not_true_eq_false, if_false]

theorem zrk_cons_le (L : List Cond) (rest : List (List Cond)) (w : World) : zrk (L :: rest) w ≤ zrk rest w + 1 := by
  by_cases h : zrk rest w = 0
  · rw [zrk_cons_of_zero L h]; split
    · exact Nat.le_add_left _ _
    · exact Nat.zero_le _
  · exact Nat.le_of_eq (zrk_cons_of_ne_zero h)

theorem zrk_le_length (P : List (List Cond)) (w : World) : zrk P w ≤ P.length := by
  induction P with
  | nil => exact Nat.le_refl _
  | cons L rest ih => exact Nat.le_trans (zrk_cons_le L rest w) (Nat.succ_le_succ ih)

theorem zrk_snoc (below : List (List Cond)) (L : List Cond) (w : World) :
    zrk (below ++ [L]) w = if nofal L w then zrk below w else below.length + 1 := by
  induction below with
  | nil =>
    rw [List.nil_append, zrk_cons_of_zero L rfl, nofal_eq_not_any]
    cases L.any (·.fal w) <;> rfl
  | cons M rest ih =>
    rw [List.cons_append, zrk, ih]
    cases nofal L w <;> rfl

theorem zrk_eq_zero_iff (P : List (List Cond)) (w : World) :
    zrk P w = 0 ↔ ∀ c ∈ P.flatten, c.fal w = false := by
  induction P with
  | nil => exact iff_of_true rfl (List.forall_mem_nil _)
  | cons L rest ih =>
    rw [List.flatten_cons, List.forall_mem_append, ← ih, ← nofal_iff_forall, nofal_eq_not_any, Bool.not_eq_true']
    show zrk (L :: rest) w = 0 ↔ L.any (·.fal w) = false ∧ zrk rest w = 0
    by_cases hr : zrk rest w = 0
    · rw [zrk_cons_of_zero L hr]
      cases L.any (·.fal w)
      · exact ⟨fun _ => ⟨rfl, hr⟩, fun _ => rfl⟩
      · exact ⟨fun h => absurd h (Nat.succ_ne_zero _), fun h => nomatch h.1⟩
    · rw [zrk_cons_of_ne_zero hr]
      exact ⟨fun h => absurd h (Nat.succ_ne_zero _), fun h => absurd h.2 hr⟩

theorem zrk_zero_layer {P : List (List Cond)} {w : World} (h : zrk P w = 0) {j : Nat} {L : List Cond}
    (hL : P[j]? = some L) : L.any (·.fal w) = false :=
  List.any_eq_false.mpr fun c hc => Bool.eq_false_iff.mp <|
    (zrk_eq_zero_iff P w).mp h c (List.mem_flatten_of_mem (List.mem_of_getElem? hL) hc)

theorem zrk_succ_layer {P : List (List Cond)} {w : World} {i : Nat} (h : zrk P w = i + 1) :
    (∃ L, P[i]? = some L ∧ L.any (·.fal w) = true) ∧
      ∀ j, i < j → ∀ L, P[j]? = some L → L.any (·.fal w) = false := by
  induction P generalizing i with
  | nil => cases h
  | cons L rest ih =>
    by_cases hr : zrk rest w = 0
    · rw [zrk_cons_of_zero L hr] at h
      cases hL : L.any (·.fal w)
      · rw [hL] at h; cases h
      · rw [hL] at h
        obtain rfl : 0 = i := Nat.succ.inj h
        refine ⟨⟨L, rfl, hL⟩, fun j hj L' hL' => ?_⟩
        cases j with
        | zero => exact nomatch hj
        | succ j => exact zrk_zero_layer hr hL'
    · rw [zrk_cons_of_ne_zero hr] at h
      cases i with
      | zero => exact absurd (Nat.succ.inj h) hr
      | succ k =>
        obtain ⟨hk, hup⟩ := ih (Nat.succ.inj h)
        refine ⟨hk, fun j hj L' hL' => ?_⟩
        cases j with
        | zero => exact nomatch hj
        | succ j => exact hup j (Nat.lt_of_succ_lt_succ hj) L' hL'

/-- the tolerance witness of a member of `L` has rank 0, and the later layers keep their strict comparisons when `L` is
put beneath them -/
theorem zrk_models (Ω : List World) : ∀ (P : List (List Cond)), IsTolPart Ω P →
    Models Ω (zrk P) P.flatten := by
  intro P
  induction P with
  | nil => exact fun _ _ hc => nomatch hc
  | cons L rest ih =>
    intro hP c hc
    obtain ⟨_, hL, hrest⟩ := hP
    rcases List.mem_append.mp (List.flatten_cons ▸ hc) with hc | hc
    · obtain ⟨w, hw, hv, hnf⟩ := hL c hc
      refine ⟨w, hw, hv, fun w' _ hf' => ?_⟩
      rw [(zrk_eq_zero_iff (L :: rest) w).mpr hnf]
      exact Nat.pos_of_ne_zero fun h0 => ne_true_of_eq_false
        ((zrk_eq_zero_iff (L :: rest) w').mp h0 c (List.mem_append_left _ hc)) hf'
    · obtain ⟨w, hw, hv, hlt⟩ := ih hrest c hc
      refine ⟨w, hw, hv, fun w' hw' hf' => ?_⟩
      have := hlt w' hw' hf'
      rw [zrk_cons_of_ne_zero (Nat.ne_of_gt (Nat.zero_lt_of_lt this))]
      exact Nat.lt_of_le_of_lt (zrk_cons_le L rest w) (Nat.succ_lt_succ this)

theorem exists_min (κ : World → Nat) (p : World → Prop) : ∀ (Ω : List World), (∃ w ∈ Ω, p w) →
    ∃ w ∈ Ω, p w ∧ ∀ w' ∈ Ω, p w' → κ w ≤ κ w' :=
  exists_min_measure κ p

/-- Among the worlds satisfying the antecedent of some member of `S`, a `κ`-minimal one falsifies no member of `S ∩ D`
(the verifying world of that member would lie below it); as no member of `S` is tolerated it falsifies `(¬B|A) ∈ S`, that
is, it verifies `(B|A)`. A falsifying world of `(B|A)` is one of those worlds and not minimal among them. -/
theorem stuck_models_accept (Ω : List World) (D : List Cond) (q : Cond) (S : List Cond)
    (hS : Stuck Ω S) (hsub : ∀ c ∈ S, c = negq q ∨ c ∈ D)
    (hA : ∃ w ∈ Ω, q.ante.eval w = true)
    (κ : World → Nat) (hκ : Models Ω κ D) : Accepts Ω κ q := by
  let p : World → Prop := fun w => ∃ c ∈ S, c.ante.eval w = true
  have hU : ∃ w ∈ Ω, p w := by
    obtain ⟨c, hc⟩ := List.exists_mem_of_ne_nil S hS.1
    rcases hsub c hc with rfl | hcD
    · exact hA.imp fun w h => ⟨h.1, negq q, hc, h.2⟩
    · obtain ⟨w, hw, hv, _⟩ := hκ c hcD
      exact ⟨w, hw, c, hc, Cond.ante_of_ver hv⟩
  have hmin_ver : ∀ m ∈ Ω, p m → (∀ w' ∈ Ω, p w' → κ m ≤ κ w') → negq q ∈ S ∧ q.ver m = true := by
    rintro m hm ⟨c, hcS, hante⟩ hmin
    obtain ⟨d, hd, hf⟩ := hS.falsifies hm hcS hante
    rcases hsub d hd with rfl | hdD
    · exact ⟨hd, (negq_fal q m).symm.trans hf⟩
    · obtain ⟨w1, hw1, hv1, hlt⟩ := hκ d hdD
      exact absurd (hlt m hm hf) (Nat.not_lt.mpr (hmin w1 hw1 ⟨d, hd, Cond.ante_of_ver hv1⟩))
  obtain ⟨m, hm, hpm, hmin⟩ := exists_min κ p Ω hU
  obtain ⟨hnS, hvm⟩ := hmin_ver m hm hpm hmin
  refine ⟨m, hm, hvm, fun w' hw' hf' => ?_⟩
  have hpw' : p w' := ⟨negq q, hnS, (Cond.ante_of_fal hf' :)⟩
  refine Nat.lt_of_le_of_ne (hmin w' hw' hpw') fun e => ?_
  exact ne_true_of_eq_false (Cond.not_ver_of_fal hf') (hmin_ver w' hw' hpw' fun u hu hpu => e ▸ hmin u hu hpu).2

theorem part_gives_countermodel (Ω : List World) (D : List Cond) (q : Cond) (P : List (List Cond))
    (hP : IsTolPart Ω P) (hmem : ∀ c, c ∈ P.flatten ↔ (c = negq q ∨ c ∈ D)) :
    Models Ω (zrk P) D ∧ ¬ Accepts Ω (zrk P) q := by
  have hm := zrk_models Ω P hP
  refine ⟨fun c hc => hm c ((hmem c).mpr (Or.inr hc)), ?_⟩
  intro hacc
  obtain ⟨w, hw, hv, hlt⟩ := hm (negq q) ((hmem _).mpr (Or.inl rfl))
  obtain ⟨w1, hw1, hv1, hlt1⟩ := hacc
  exact Nat.lt_asymm (hlt w1 hw1 ((negq_fal q w1).trans hv1)) (hlt1 w hw ((negq_ver q w).symm.trans hv))

/-- a layer `L` put on top of `below` gives the worlds that falsify a member of `L` the top rank and leaves the others their
rank: a verifying world that falsifies nothing in `L` beats the former for free -/
theorem accepts_of_filter {H : List World} {below : List (List Cond)} {L : List Cond} {q : Cond}
    (h : Accepts (H.filter (nofal L)) (zrk below) q) : Accepts H (zrk (below ++ [L])) q := by
  obtain ⟨w, hw, hver, hlt⟩ := h
  obtain ⟨hwH, hwp⟩ := List.mem_filter.mp hw
  refine ⟨w, hwH, hver, fun w' hw' hf' => ?_⟩
  rw [zrk_snoc, hwp, if_pos rfl, zrk_snoc]
  cases hp' : nofal L w'
  · exact Nat.lt_succ_of_le (zrk_le_length below w)
  · exact hlt w' (List.mem_filter.mpr ⟨hw', hp'⟩) hf'

/-- conversely a verifying world below all falsifying ones falsifies nothing in `L` if some world falsifies at all; if none
does, any verifying world that falsifies nothing in `L` will do -/
theorem accepts_filter_iff {H : List World} {below : List (List Cond)} {L : List Cond} {q : Cond}
    (hq : (∃ w' ∈ H, q.fal w' = true) ∨ ∃ w ∈ H.filter (nofal L), q.ver w = true) :
    Accepts H (zrk (below ++ [L])) q ↔ Accepts (H.filter (nofal L)) (zrk below) q := by
  refine ⟨?_, accepts_of_filter⟩
  rintro ⟨w, hw, hver, hlt⟩
  cases hwp : nofal L w
  · -- `w` has the top rank, so nothing falsifies
    have hnf : ∀ w0 ∈ H, q.fal w0 = true → False := fun w0 hw0 hf0 => by
      have := Nat.lt_of_lt_of_le (hlt w0 hw0 hf0) (zrk_le_length _ w0)
      rw [zrk_snoc, hwp, List.length_append] at this
      exact Nat.lt_irrefl _ this
    rcases hq with ⟨w0, hw0, hf0⟩ | ⟨a, ha, hva⟩
    · exact (hnf w0 hw0 hf0).elim
    · exact ⟨a, ha, hva, fun w' hw' hf' => (hnf w' (List.mem_filter.mp hw').1 hf').elim⟩
  · refine ⟨w, List.mem_filter.mpr ⟨hw, hwp⟩, hver, fun w' hw' hf' => ?_⟩
    have := hlt w' (List.mem_filter.mp hw').1 hf'
    rwa [zrk_snoc, hwp, if_pos rfl, zrk_snoc, (List.mem_filter.mp hw').2, if_pos rfl] at this

def prefEnt (Ω : List World) (lt : World → World → Bool) (q : Cond) : Bool :=
  (Ω.filter q.fal).all fun w' => (Ω.filter q.ver).any fun w => lt w w'

theorem prefEnt_iff {Ω : List World} {lt : World → World → Bool} {q : Cond} :
    prefEnt Ω lt q = true ↔ ∀ w' ∈ Ω, q.fal w' = true → ∃ w ∈ Ω, q.ver w = true ∧ lt w w' = true := by
  simp only [prefEnt, List.all_eq_true, List.any_eq_true, List.mem_filter, and_imp, and_assoc]

theorem prefEnt_mono {Ω : List World} {lt lt' : World → World → Bool} {q : Cond}
    (hlt : ∀ w w', lt w w' = true → lt' w w' = true) (h : prefEnt Ω lt q = true) : prefEnt Ω lt' q = true := by
  refine prefEnt_iff.mpr fun w' hw' hf' => ?_
  obtain ⟨w, hw, hv, hww'⟩ := prefEnt_iff.mp h w' hw' hf'
  exact ⟨w, hw, hv, hlt w w' hww'⟩

theorem prefEnt_of_accepts {Ω : List World} {κ : World → Nat} {q : Cond} (h : Accepts Ω κ q) :
    prefEnt Ω (fun w w' => decide (κ w < κ w')) q = true := by
  obtain ⟨w, hw, hv, hlt⟩ := h
  exact prefEnt_iff.mpr fun w' hw' hf' => ⟨w, hw, hv, decide_eq_true (hlt w' hw' hf')⟩

theorem prefEnt_of_no_fal {Ω : List World} (lt : World → World → Bool) {q : Cond} (h : ∀ w ∈ Ω, q.fal w = false) :
    prefEnt Ω lt q = true :=
  prefEnt_iff.mpr fun w' hw' hf' => absurd hf' (Bool.eq_false_iff.mp (h w' hw'))

theorem accepts_iff_prefEnt (Ω : List World) (κ : World → Nat) (q : Cond) (hA : ∃ w ∈ Ω, q.ante.eval w = true) :
    Accepts Ω κ q ↔ prefEnt Ω (fun w w' => κ w < κ w') q = true := by
  refine ⟨prefEnt_of_accepts, fun h => ?_⟩
  by_cases hf : ∃ w' ∈ Ω, q.fal w' = true
  · -- the verifying world below a κ-minimal falsifying world is below every falsifying world
    obtain ⟨m, hm, hfm, hmin⟩ := exists_min κ (fun w => q.fal w = true) Ω hf
    obtain ⟨w, hw, hver, hlt⟩ := prefEnt_iff.mp h m hm hfm
    exact ⟨w, hw, hver, fun w' hw' hf' => Nat.lt_of_lt_of_le (of_decide_eq_true hlt) (hmin w' hw' hf')⟩
  · obtain ⟨a, ha, hAa⟩ := hA
    exact ⟨a, ha, (ver_or_fal q hAa).resolve_right fun h => hf ⟨a, ha, h⟩, fun w' hw' h => (hf ⟨w', hw', h⟩).elim⟩

theorem lt_of_le_lt_le {v v' f f' : Nat} (h1 : v ≤ v') (h2 : f ≤ f') (h : v' < f) : v < f' :=
  Nat.lt_of_le_of_lt h1 (Nat.lt_of_lt_of_le h h2)

/-- the comparison `conditional_acceptance` and every compiled constraint make between two optional minima: the
first exists and is `R`-below the second, if that exists (`CompiledOne`, `CompiledQueryAccepts`, `RevConstraint`
are this by `rfl`) -/
def optLt (R : Nat → Nat → Prop) : Option Nat → Option Nat → Prop
  | none, _ => False
  | some _, none => True
  | some v, some f => R v f

theorem optLt_min? {α β : Type} {R : Nat → Nat → Prop} (hR : ∀ {v v' f f'}, v ≤ v' → f ≤ f' → R v' f → R v f')
    {f : α → Nat} {g : β → Nat} {V : List α} {F : List β} :
    optLt R (V.map f).min? (F.map g).min? ↔ ∃ v ∈ V, ∀ w ∈ F, R (f v) (g w) := by
  cases hV : (V.map f).min? with
  | none =>
    rw [List.map_eq_nil_iff.mp (List.min?_eq_none_iff.mp hV)]
    exact ⟨False.elim, by rintro ⟨_, h, _⟩; exact (List.not_mem_nil h).elim⟩
  | some mv =>
    obtain ⟨hmv, hmin⟩ := List.min?_eq_some_iff.mp hV
    obtain ⟨v0, hv0, rfl⟩ := List.mem_map.mp hmv
    rw [List.forall_mem_map] at hmin
    cases hF : (F.map g).min? with
    | none =>
      rw [List.map_eq_nil_iff.mp (List.min?_eq_none_iff.mp hF)]
      exact ⟨fun _ => ⟨v0, hv0, fun _ h => (List.not_mem_nil h).elim⟩, fun _ => trivial⟩
    | some mf =>
      obtain ⟨hmf, hminf⟩ := List.min?_eq_some_iff.mp hF
      obtain ⟨w0, hw0, rfl⟩ := List.mem_map.mp hmf
      rw [List.forall_mem_map] at hminf
      exact ⟨fun h => ⟨v0, hv0, fun w hw => hR (Nat.le_refl _) (hminf w hw) h⟩,
        by rintro ⟨v, hv, h⟩; exact hR (hmin v hv) (Nat.le_refl _) (h w0 hw0)⟩

theorem accepts_iff_ver_fal {Ω : List World} {κ : World → Nat} {c : Cond} :
    Accepts Ω κ c ↔ ∃ v ∈ Ω.filter c.ver, ∀ w ∈ Ω.filter c.fal, κ v < κ w := by
  simp only [Accepts, List.mem_filter, and_assoc, and_imp]

/-- acceptance as a comparison of minima: `R (f v) (g w)` is what `κ v < κ w` says about a verifying `v`
and a falsifying `w` once the conditional's own contribution is taken out -/
theorem accepts_iff_optLt {R : Nat → Nat → Prop} (hR : ∀ {v v' f f'}, v ≤ v' → f ≤ f' → R v' f → R v f')
    (Ω : List World) (κ : World → Nat) (c : Cond) (f g : World → Nat)
    (h : ∀ v w, c.ver v = true → c.fal w = true → (κ v < κ w ↔ R (f v) (g w))) :
    Accepts Ω κ c ↔ optLt R ((Ω.filter c.ver).map f).min? ((Ω.filter c.fal).map g).min? := by
  rw [optLt_min? hR, accepts_iff_ver_fal]
  exact exists_congr fun v => and_congr_right fun hv => forall₂_congr fun w hw =>
    h v w (List.mem_filter.mp hv).2 (List.mem_filter.mp hw).2

end InfOCF
