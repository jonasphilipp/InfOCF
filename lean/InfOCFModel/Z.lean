import InfOCFModel.Ocf
/-!
System Z. `specZ` is `prefEnt` (`Ocf.lean`) for the comparison of Z-ranks, which is acceptance by the Z-ranking (`specZ_iff_accepts`). The implementation's recursion `algZ`
walks the layers top-first and keeps the worlds falsifying nothing so far; it computes `specZ` (`algZ_spec`).
-/
namespace InfOCF

def specZ (Ω : List World) (layers : List (List Cond)) (q : Cond) : Bool :=
  prefEnt Ω (fun w w' => zrk layers w < zrk layers w') q

/-- `SystemZ._rec_inference`; layers top-first, `H` = worlds satisfying the assertions so far -/
def algZ : List (List Cond) → List World → Cond → Bool
  | [], _, _ => false
  | L :: rest, H, q =>
    let H' := H.filter (nofal L)
    let v := H'.any q.ver
    let f := H'.any q.fal
    if !v then false
    else if f then (match rest with | [] => false | _ => algZ rest H' q)
    else true

/-- ranks are read off the reversed list, where the first layer of the recursion lies on top (`accepts_filter_iff`) -/
theorem algZ_spec (Lst : List (List Cond)) (H : List World) (q : Cond) (hf : ∃ w' ∈ H, q.fal w' = true) :
    algZ Lst H q = true ↔ Accepts H (zrk Lst.reverse) q := by
  induction Lst generalizing H with
  | nil =>
    obtain ⟨w', hw', hf'⟩ := hf
    refine iff_of_false Bool.false_ne_true ?_
    rintro ⟨_, _, _, h⟩
    exact Nat.lt_irrefl _ (h w' hw' hf')
  | cons L rest ih =>
    have halg : algZ (L :: rest) H q = if !(H.filter (nofal L)).any q.ver then false
        else if (H.filter (nofal L)).any q.fal then algZ rest (H.filter (nofal L)) q else true := by
      cases rest <;> rfl
    rw [halg, List.reverse_cons, accepts_filter_iff (.inl hf)]
    cases hv : (H.filter (nofal L)).any q.ver
    · refine iff_of_false Bool.false_ne_true ?_
      rintro ⟨w, hw, hver, _⟩
      exact ne_true_of_eq_false hv (List.any_eq_true.mpr ⟨w, hw, hver⟩)
    · obtain ⟨w, hw, hver⟩ := List.any_eq_true.mp hv
      cases hf' : (H.filter (nofal L)).any q.fal
      · exact iff_of_true rfl ⟨w, hw, hver, fun w' hw' h => absurd h (List.any_eq_false.mp hf' w' hw')⟩
      · exact ih _ (List.any_eq_true.mp hf')

theorem algZ_iff : ∀ (Lst : List (List Cond)) (H : List World) (q : Cond),
    Lst ≠ [] → (∃ w' ∈ H, q.fal w' = true) →
    (algZ Lst H q = true ↔
      ∃ w ∈ H, q.ver w = true ∧ ∀ w' ∈ H, q.fal w' = true → zrk Lst.reverse w < zrk Lst.reverse w') :=
  fun Lst H q _ hf => algZ_spec Lst H q hf

theorem specZ_iff_accepts (Ω : List World) (P : List (List Cond)) (q : Cond) (hf : ∃ w' ∈ Ω, q.fal w' = true) :
    specZ Ω P q = true ↔ Accepts Ω (zrk P) q := by
  obtain ⟨a, ha, hfa⟩ := hf
  exact (accepts_iff_prefEnt Ω (zrk P) q ⟨a, ha, Cond.ante_of_fal hfa⟩).symm

theorem algZ_reverse_eq_specZ (Ω : List World) (P : List (List Cond)) (q : Cond) (hf : ∃ w' ∈ Ω, q.fal w' = true) :
    algZ P.reverse Ω q = specZ Ω P q := by
  rw [Bool.eq_iff_iff, algZ_spec _ Ω q hf, List.reverse_reverse, specZ_iff_accepts Ω P q hf]

theorem algZ_eq_specZ (Ω : List World) (P : List (List Cond)) (hP : P ≠ []) (q : Cond)
    (hf : ∃ w' ∈ Ω, q.fal w' = true) :
    algZ P.reverse Ω q = specZ Ω P q :=
  algZ_reverse_eq_specZ Ω P q hf

end InfOCF
