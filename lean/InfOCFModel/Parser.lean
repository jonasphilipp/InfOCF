import InfOCFModel.Basic
/-!
# Formulas at token level: the documented grammar `D`, the recursive-descent parser `parse`, and their agreement

`parse fuel lvl ts` reads a formula of level `lvl` from the front of `ts` and returns it with the rest; `loop` is the
left-associative chain of `,` (level 1) or `;` (level 2) behind a formula already read. `parseFm` runs level 2 on the whole
input. `parse_sound` (what is accepted is derived, prefix by prefix) and `parse_complete` (what is derived is accepted, from an
explicit fuel on) give `parseFm_iff`; uniqueness of the reading (`D_unique`) follows because `parseFm` is a function.
-/
namespace InfOCF

inductive Tok where
  | id (n : Nat) | top | bot | not | comma | semi | lpar | rpar
deriving DecidableEq, Repr

/-- stratified grammar: level 0 = negation/atoms/parentheses, 1 = conjunctions (left assoc), 2 = disjunctions -/
inductive D : Nat → List Tok → Fm → Prop
  | atom (n : Nat) : D 0 [.id n] (.atom n)
  | top : D 0 [.top] .top
  | bot : D 0 [.bot] .bot
  | neg {ts f} : D 0 ts f → D 0 (.not :: ts) (.neg f)
  | paren {ts f} : D 2 ts f → D 0 (.lpar :: (ts ++ [.rpar])) f
  | up1 {ts f} : D 0 ts f → D 1 ts f
  | up2 {ts f} : D 1 ts f → D 2 ts f
  | conj {ts1 ts2 f1 f2} : D 1 ts1 f1 → D 0 ts2 f2 → D 1 (ts1 ++ .comma :: ts2) (.and f1 f2)
  | disj {ts1 ts2 f1 f2} : D 2 ts1 f1 → D 1 ts2 f2 → D 2 (ts1 ++ .semi :: ts2) (.or f1 f2)

mutual
def parse : Nat → Nat → List Tok → Option (Fm × List Tok)
  | 0, _, _ => none
  | fuel+1, 0, ts =>
    match ts with
    | .id n :: r => some (.atom n, r)
    | .top :: r => some (.top, r)
    | .bot :: r => some (.bot, r)
    | .not :: r =>
      match parse fuel 0 r with
      | some (f, r') => some (.neg f, r')
      | none => none
    | .lpar :: r =>
      match parse fuel 2 r with
      | some (f, .rpar :: r') => some (f, r')
      | _ => none
    | _ => none
  | fuel+1, lvl+1, ts =>
    match parse fuel lvl ts with
    | some (f, r) => loop fuel (lvl+1) f r
    | none => none
def loop : Nat → Nat → Fm → List Tok → Option (Fm × List Tok)
  | 0, _, _, _ => none
  | fuel+1, lvl, f, ts =>
    if lvl = 1 then
      match ts with
      | .comma :: r =>
        match parse fuel 0 r with
        | some (g, r') => loop fuel 1 (.and f g) r'
        | none => none
      | _ => some (f, ts)
    else
      match ts with
      | .semi :: r =>
        match parse fuel 1 r with
        | some (g, r') => loop fuel 2 (.or f g) r'
        | none => none
      | _ => some (f, ts)
end

def parseFm (ts : List Tok) : Option Fm :=
  match parse (3 * ts.length + 3) 2 ts with
  | some (f, []) => some f
  | _ => none

#eval parseFm [.id 0, .comma, .id 1, .semi, .not, .id 2, .comma, .id 3]
#eval parseFm [.not, .lpar, .id 0, .semi, .id 1, .rpar, .comma, .id 2]
#eval parseFm [.id 0, .id 1]

section
variable {n m l : Nat} {f g : Fm} {ts r : List Tok} {x : Fm × List Tok}

/-- inversion of `match o with | some (a, b) => F a b | none => none`, the form in which `parse` and `loop` chain their calls -/
theorem bind_pair {α β γ} {o : Option (α × β)} {F : α → β → Option γ} {y : γ} :
    (o.bind fun p => F p.1 p.2) = some y ↔ ∃ a b, o = some (a, b) ∧ F a b = some y := by
  rw [Option.bind_eq_some_iff, Prod.exists]

/-! Step equations: every case of `parse` and `loop` that can accept, as an inversion. The proofs below go through these and
do not unfold the two functions. -/

theorem parse_succ : parse (n+1) (l+1) ts = some x ↔
    ∃ g r, parse n l ts = some (g, r) ∧ loop n (l+1) g r = some x := by
  rw [parse, ← bind_pair]; cases parse n l ts <;> rfl

theorem parse_not : parse (n+1) 0 (.not :: ts) = some x ↔
    ∃ g r, parse n 0 ts = some (g, r) ∧ some (.neg g, r) = some x := by
  rw [parse, ← bind_pair]; cases parse n 0 ts <;> rfl

theorem parse_lpar : parse (n+1) 0 (.lpar :: ts) = some (f, r) ↔ parse n 2 ts = some (f, .rpar :: r) := by
  rw [parse]; split
  next g r' e => rw [e]; exact ⟨fun h => by cases h; rfl, fun h => by cases h; rfl⟩
  next hne => exact ⟨nofun, fun h => (hne _ _ h).elim⟩

theorem loop_comma : loop (n+1) 1 f (.comma :: ts) = some x ↔
    ∃ g r, parse n 0 ts = some (g, r) ∧ loop n 1 (.and f g) r = some x := by
  rw [loop, if_pos rfl, ← bind_pair]; cases parse n 0 ts <;> rfl

theorem loop_semi (hl : l ≠ 1) : loop (n+1) l f (.semi :: ts) = some x ↔
    ∃ g r, parse n 1 ts = some (g, r) ∧ loop n 2 (.or f g) r = some x := by
  rw [loop, if_neg hl, ← bind_pair]; cases parse n 1 ts <;> rfl

theorem loop_stop1 (h : ∀ r, ts ≠ .comma :: r) :
    loop (n+1) 1 f ts = some (f, ts) := by
  -- `simp` takes the last branch of the `match` on `ts` because of `h`, which it finds in the context
  simp only [loop, if_true]

theorem loop_stop2 (hl : l ≠ 1) (h : ∀ r, ts ≠ .semi :: r) :
    loop (n+1) l f ts = some (f, ts) := by
  simp only [loop, hl, if_false]

/-- `loop` is entered with a formula `f0` already read; its invariant carries the tokens `pre0` that were read for it: if
`pre0` derives `f0`, the result is derived, at the same level, by `pre0` extended by what `loop` consumes of `ts`. -/
theorem parse_sound (n : Nat) :
    (∀ l ts f r, l ≤ 2 → parse n l ts = some (f, r) → ∃ pre, ts = pre ++ r ∧ D l pre f) ∧
    (∀ f0 ts f r pre0, loop n 1 f0 ts = some (f, r) → D 1 pre0 f0 → ∃ pre, pre0 ++ ts = pre ++ r ∧ D 1 pre f) ∧
    (∀ f0 ts f r pre0, loop n 2 f0 ts = some (f, r) → D 2 pre0 f0 → ∃ pre, pre0 ++ ts = pre ++ r ∧ D 2 pre f) := by
  induction n with
  | zero => exact ⟨nofun, nofun, nofun⟩
  | succ n ih =>
    obtain ⟨ihp, ihl1, ihl2⟩ := ih
    refine ⟨?_, ?_, ?_⟩
    · intro l ts f r hl h
      cases l with
      | succ l =>
        obtain ⟨g, r', hp, hc⟩ := parse_succ.1 h
        obtain ⟨pre0, rfl, hd0⟩ := ihp l ts g r' (Nat.le_of_succ_le hl) hp
        rcases l with _ | _ | l
        · exact ihl1 _ _ _ _ _ hc (.up1 hd0)
        · exact ihl2 _ _ _ _ _ hc (.up2 hd0)
        · omega
      | zero =>
        cases ts with
        | nil => cases h
        | cons t ts =>
          cases t
          case id | top | bot => cases h; exact ⟨[_], rfl, by constructor⟩
          case not =>
            obtain ⟨g, _, hp, e⟩ := parse_not.1 h; cases e
            obtain ⟨pre, rfl, hd⟩ := ihp 0 ts g r (by decide) hp
            exact ⟨.not :: pre, rfl, .neg hd⟩
          case lpar =>
            obtain ⟨pre, rfl, hd⟩ := ihp 2 ts f _ (by decide) (parse_lpar.1 h)
            exact ⟨_, by rw [List.cons_append, List.append_assoc]; rfl, .paren hd⟩
          all_goals cases h
    · intro f0 ts f r pre0 h hd0
      by_cases hs : ∃ r, ts = .comma :: r
      case neg => rw [loop_stop1 fun r e => hs ⟨r, e⟩] at h; cases h; exact ⟨pre0, rfl, hd0⟩
      obtain ⟨ts, rfl⟩ := hs
      obtain ⟨g, r', hp, hc⟩ := loop_comma.1 h
      obtain ⟨pre1, rfl, hd1⟩ := ihp 0 ts g r' (by decide) hp
      obtain ⟨pre, e, hd⟩ := ihl1 _ _ _ _ _ hc (.conj hd0 hd1)
      exact ⟨pre, by rw [← e, List.append_assoc]; rfl, hd⟩
    · intro f0 ts f r pre0 h hd0
      by_cases hs : ∃ r, ts = .semi :: r
      case neg => rw [loop_stop2 (by decide) fun r e => hs ⟨r, e⟩] at h; cases h; exact ⟨pre0, rfl, hd0⟩
      obtain ⟨ts, rfl⟩ := hs
      obtain ⟨g, r', hp, hc⟩ := (loop_semi (by decide)).1 h
      obtain ⟨pre1, rfl, hd1⟩ := ihp 1 ts g r' (by decide) hp
      obtain ⟨pre, e, hd⟩ := ihl2 _ _ _ _ _ hc (.disj hd0 hd1)
      exact ⟨pre, by rw [← e, List.append_assoc]; rfl, hd⟩

theorem parseFm_sound (ts : List Tok) (f : Fm) (h : parseFm ts = some f) : D 2 ts f := by
  unfold parseFm at h
  split at h
  next g hp =>
    obtain ⟨pre, e, hd⟩ := (parse_sound _).1 2 ts g [] (Nat.le_refl 2) hp
    cases h; rwa [e, List.append_nil]
  next => cases h

/-- from fuel `n` on, `p` returns `y`: completeness is stated for every sufficient fuel, so that no step has to pad it -/
def FromFuel {α} (p : Nat → Option α) (n : Nat) (y : α) : Prop := ∀ m, n ≤ m → p m = some y

variable {α : Type} {p : Nat → Option α} {y : α}

theorem FromFuel.succ (h : ∀ m, n ≤ m → p (m+1) = some y) : FromFuel p (n+1) y := by
  intro m hm
  cases m with
  | zero => nomatch hm
  | succ m => exact h m (Nat.le_of_succ_le_succ hm)

theorem FromFuel.mono (h : FromFuel p n y) (hn : n ≤ m) : FromFuel p m y :=
  fun _ hm => h _ (Nat.le_trans hn hm)

/-- The completeness invariant of a derivation `D lvl pre f`, for `pre` followed by any rest `r`, with the fuel that suffices
(three units per token). Level 0: `parse` reads `pre` and returns `(f, r)`. Levels 1 and 2 are stated for the continuation,
since a chain `a , b , c` is a derivation of `a , b` extended to the right: whatever `loop` makes of `f` and `r` from fuel
`n` on, `parse` makes of `pre ++ r` from `3 * pre.length` more and a constant on. At level 2 the rest must not begin with a
comma (the level-1 `loop` inside would go on with it), and that inner `loop` needs one unit of fuel to stop, hence `n+1`. -/
def K : Nat → List Tok → Fm → Prop
  | 0, pre, f => ∀ r, FromFuel (parse · 0 (pre ++ r)) (3 * pre.length) (f, r)
  | 1, pre, f => ∀ r x n, FromFuel (loop · 1 f r) n x → FromFuel (parse · 1 (pre ++ r)) (3 * pre.length + n + 1) x
  | 2, pre, f => ∀ r x n, (∀ r', r ≠ .comma :: r') → FromFuel (loop · 2 f r) (n+1) x →
      FromFuel (parse · 2 (pre ++ r)) (3 * pre.length + n + 3) x
  | _, _, _ => True

theorem parse_complete {lvl pre f} (h : D lvl pre f) : K lvl pre f := by
  induction h with
  | atom | top | bot => intro r; exact .succ fun _ _ => rfl
  | @neg ts f _ ih =>
    intro r
    -- `3 * (k + 1)` unfolds to `3 * k + 2 + 1`
    exact .succ fun m hm => parse_not.2 ⟨f, r, ih r m (Nat.le_of_add_right_le hm), rfl⟩
  | @paren ts f _ ih =>
    intro r
    have := ih (.rpar :: r) (f, .rpar :: r) 0 nofun (.succ fun _ _ => loop_stop2 (by decide) nofun)
    rw [List.cons_append, List.append_assoc]
    refine FromFuel.mono (.succ fun m hm => parse_lpar.2 (this m hm)) ?_
    rw [List.length_cons, List.length_append]; exact Nat.le_add_right _ 2
  | @up1 ts f _ ih =>
    intro r x n h
    exact .succ fun m hm => parse_succ.2
      ⟨f, r, ih r m (Nat.le_trans (Nat.le_add_right ..) hm), h m (Nat.le_trans (Nat.le_add_left ..) hm)⟩
  | @up2 ts f _ ih =>
    intro r x n hr h
    exact .succ fun m hm => parse_succ.2 ⟨f, r, ih r (f, r) (n+1) (.succ fun _ _ => loop_stop1 hr) m hm,
      h m (Nat.le_trans (Nat.le_succ_of_le (Nat.le_add_left ..)) hm)⟩
  | @conj ts1 ts2 f1 f2 _ _ ih1 ih2 =>
    intro r x n h
    have : FromFuel (loop · 1 f1 (.comma :: (ts2 ++ r))) (3 * ts2.length + n + 1) x := .succ fun m hm => loop_comma.2
      ⟨f2, r, ih2 r m (Nat.le_trans (Nat.le_add_right ..) hm), h m (Nat.le_trans (Nat.le_add_left ..) hm)⟩
    rw [List.append_assoc, List.cons_append]
    exact (ih1 _ x _ this).mono (by rw [List.length_append, List.length_cons]; omega)
  | @disj ts1 ts2 f1 f2 _ _ ih1 ih2 =>
    intro r x n hr h
    have : FromFuel (loop · 2 f1 (.semi :: (ts2 ++ r))) (3 * ts2.length + n + 2 + 1) x := .succ fun m hm =>
      (loop_semi (by decide)).2 ⟨f2, r, ih2 r (f2, r) (n+1) (.succ fun _ _ => loop_stop1 hr) m hm,
        h m (Nat.le_trans (Nat.le_succ_of_le (Nat.le_add_left ..)) hm)⟩
    rw [List.append_assoc, List.cons_append]
    exact (ih1 (.semi :: (ts2 ++ r)) x _ nofun this).mono (by rw [List.length_append, List.length_cons]; omega)

theorem parseFm_complete (ts : List Tok) (f : Fm) (h : D 2 ts f) : parseFm ts = some f := by
  have := parse_complete h [] (f, []) 0 nofun (.succ fun _ _ => loop_stop2 (by decide) nofun) _ (Nat.le_refl _)
  simp only [List.append_nil] at this
  simp [parseFm, this]

theorem parseFm_iff (ts : List Tok) (f : Fm) : parseFm ts = some f ↔ D 2 ts f :=
  ⟨parseFm_sound ts f, parseFm_complete ts f⟩

theorem D_unique (ts : List Tok) (f g : Fm) (hf : D 2 ts f) (hg : D 2 ts g) : f = g :=
  Option.some.inj ((parseFm_complete ts f hf).symm.trans (parseFm_complete ts g hg))

end

def Fm.ren (ρ : Nat → Nat) : Fm → Fm
  | .top => .top
  | .bot => .bot
  | .atom i => .atom (ρ i)
  | .neg a => .neg (a.ren ρ)
  | .and a b => .and (a.ren ρ) (b.ren ρ)
  | .or a b => .or (a.ren ρ) (b.ren ρ)

theorem Fm.ren_id (f : Fm) : f.ren id = f := by
  induction f with
  | top | bot | atom i => rfl
  | neg a ih => simp only [Fm.ren, ih]
  | and a b iha ihb | or a b iha ihb => simp only [Fm.ren, iha, ihb]

/-- a printer with minimal parentheses for each precedence level -/
def pp : Nat → Fm → List Tok
  | _, .top => [.top]
  | _, .bot => [.bot]
  | _, .atom n => [.id n]
  | _, .neg a => .not :: pp 0 a
  | lvl, .and a b =>
    if lvl = 0 then .lpar :: (pp 1 a ++ .comma :: pp 0 b) ++ [.rpar]
    else pp 1 a ++ .comma :: pp 0 b
  | lvl, .or a b =>
    if lvl ≤ 1 then .lpar :: (pp 2 a ++ .semi :: pp 1 b) ++ [.rpar]
    else pp 2 a ++ .semi :: pp 1 b


end InfOCF
