import InfOCFModel.Ocf
namespace InfOCF

/-- extended greedy partition: finite layers followed by the infinity layer; `none` = not even weakly consistent -/
def tolPartExt (Ω : List World) : Nat → List Cond → Option (List (List Cond))
  | _, [] => some [[]]
  | 0, _ :: _ => none
  | fuel+1, cs =>
    let R := cs.filter (tolerated Ω cs)
    let C := cs.filter (fun c => !(tolerated Ω cs c))
    if R.isEmpty then (if Ω.any (nofal cs) then some [cs] else none)
    else (tolPartExt Ω fuel C).map (R :: ·)

/-- model of `PEntailment._inference`, weakly branch -/
def algPExt (Ω : List World) (D : List Cond) (q : Cond) : Bool :=
  match tolPartExt Ω (D.length + 2) (D ++ [negq q]) with
  | none => true
  | some P => !(Ω.any fun w => q.ante.eval w && nofal (P.getLastD []) w)

/-- the property's case distinction -/
def specPExt (Ω : List World) (D : List Cond) (q : Cond) : Option Bool :=
  match tolPartExt Ω (D.length + 1) D with
  | none => none
  | some P =>
    let inf := P.getLastD []
    let fin := P.dropLast
    let Ωf := Ω.filter (nofal inf)
    if !(Ωf.any fun w => q.ante.eval w) then some true
    else if !(Ωf.any q.fal) then some true
    else if !(Ωf.any q.ver) then some false
    else some (tolPart Ωf (D.length + 2) (fin.flatten ++ [negq q])).isNone

end InfOCF
