import InfOCFModel.W
/-!
# `remove_supersets` keeps exactly the inclusion-minimal sets, each once

The code sorts by length and then keeps a set unless an already kept set is a subset of it (the filtering pass is
`removeSupersetsAux`). Sets are duplicate-free lists (`fset L w` of a duplicate-free layer).
-/
namespace InfOCF

def insertByLen (a : List Cond) : List (List Cond) → List (List Cond)
  | [] => [a]
  | b :: rest => if a.length ≤ b.length then a :: b :: rest else b :: insertByLen a rest

def sortByLen : List (List Cond) → List (List Cond)
  | [] => []
  | a :: rest => insertByLen a (sortByLen rest)

/-- the filtering pass of `remove_supersets` (after its sort by length, `sortByLen`): keep a set unless an already kept set is a
subset of it -/
def removeSupersetsAux : List (List Cond) → List (List Cond) → List (List Cond)
  | kept, [] => kept
  | kept, a :: rest =>
    if kept.any (fun b => subsetL b a) then removeSupersetsAux kept rest
    else removeSupersetsAux (kept ++ [a]) rest

def removeSupersets (X : List (List Cond)) : List (List Cond) := removeSupersetsAux [] (sortByLen X)

def Anti (l : List (List Cond)) : Prop :=
  l.Pairwise fun a b => subsetL a b = false ∧ subsetL b a = false

theorem anti_eq_of_subset {l : List (List Cond)} (h : Anti l) {a b : List Cond} (ha : a ∈ l) (hb : b ∈ l) :
    subsetL a b = true → a = b :=
  List.Pairwise.forall_of_forall_of_flip (R := fun a b => subsetL a b = true → a = b) (fun _ _ _ => rfl)
    (h.imp fun h e => nomatch h.1.symm.trans e) (h.imp fun h e => nomatch h.2.symm.trans e) ha hb

theorem mem_insertByLen (a : List Cond) (l : List (List Cond)) (s : List Cond) :
    s ∈ insertByLen a l ↔ s = a ∨ s ∈ l := by
  induction l with
  | nil => exact List.mem_cons
  | cons b rest ih =>
    rw [insertByLen]
    split
    · exact List.mem_cons
    · rw [List.mem_cons, ih, List.mem_cons]; exact or_left_comm

theorem mem_sortByLen (X : List (List Cond)) (s : List Cond) : s ∈ sortByLen X ↔ s ∈ X := by
  induction X with
  | nil => exact Iff.rfl
  | cons a rest ih => rw [sortByLen, mem_insertByLen, ih, List.mem_cons]

abbrev LenSorted (l : List (List Cond)) : Prop := l.Pairwise fun a b => a.length ≤ b.length

theorem insertByLen_sorted (a : List Cond) (l : List (List Cond)) (h : LenSorted l) : LenSorted (insertByLen a l) := by
  induction l with
  | nil => exact List.pairwise_singleton _ a
  | cons b rest ih =>
    obtain ⟨hb, hrest⟩ := List.pairwise_cons.mp h
    rw [insertByLen]
    split
    · next hle =>
      exact List.pairwise_cons.mpr ⟨List.forall_mem_cons.mpr ⟨hle, fun c hc => Nat.le_trans hle (hb c hc)⟩, h⟩
    · next hle =>
      refine List.pairwise_cons.mpr ⟨fun c hc => ?_, ih hrest⟩
      rcases (mem_insertByLen a rest c).mp hc with rfl | hc'
      · exact Nat.le_of_not_le hle
      · exact hb c hc'

theorem sortByLen_sorted (X : List (List Cond)) : LenSorted (sortByLen X) := by
  induction X with
  | nil => exact List.Pairwise.nil
  | cons a rest ih => exact insertByLen_sorted a _ ih

/-- the filtering pass is right on every list in which no set is strictly included in an earlier one (`hs`) -/
theorem removeSupersetsAux_spec (rest kept : List (List Cond)) (hanti : Anti kept)
    (hs : (kept ++ rest).Pairwise fun a b => subsetL b a = true → subsetL a b = true) :
    let res := removeSupersetsAux kept rest
    (∀ s ∈ res, s ∈ kept ++ rest) ∧
    (∀ a ∈ kept ++ rest, ∃ b ∈ res, subsetL b a = true) ∧
    Anti res := by
  induction rest generalizing kept with
  | nil =>
    rw [List.append_nil]
    exact ⟨fun s hs => hs, fun a ha => ⟨a, ha, subsetL_refl a⟩, hanti⟩
  | cons a rest ih =>
    rw [removeSupersetsAux]
    split
    · -- some kept `b ⊆ a`: whatever represents `b` in the result represents `a`
      next hany =>
      have hsub : (kept ++ rest).Sublist (kept ++ a :: rest) := (List.sublist_cons_self a rest).append_left kept
      obtain ⟨h1, h2, h3⟩ := ih kept hanti (hs.sublist hsub)
      refine ⟨fun s hs => hsub.subset (h1 s hs), fun x hx => ?_, h3⟩
      rcases List.mem_cons.mp (List.perm_middle.mem_iff.mp hx) with rfl | hx'
      · obtain ⟨b, hb, hbx⟩ := List.any_eq_true.mp hany
        obtain ⟨c, hc, hcb⟩ := h2 b (List.mem_append_left _ hb)
        exact ⟨c, hc, subsetL_trans hcb hbx⟩
      · exact h2 x hx'
    · -- no kept set is included in `a`; then `a`, coming later, is included in none
      next hany =>
      have hnone := List.any_eq_false.mp ((Bool.not_eq_true _).mp hany)
      have hanti' : Anti (kept ++ [a]) := by
        refine List.pairwise_append.mpr ⟨hanti, List.pairwise_singleton _ a, fun k hk b hb => ?_⟩
        obtain rfl := List.mem_singleton.mp hb
        exact ⟨Bool.eq_false_iff.mpr (hnone k hk), Bool.eq_false_iff.mpr fun h =>
          hnone k hk ((List.pairwise_append.mp hs).2.2 k hk b List.mem_cons_self h)⟩
      rw [List.append_cons kept a rest] at hs ⊢
      exact ih (kept ++ [a]) hanti' hs

theorem removeSupersets_spec (X : List (List Cond)) (hnd : ∀ s ∈ X, s.Nodup) :
    (∀ s ∈ removeSupersets X, s ∈ X) ∧
    (∀ a ∈ X, ∃ b ∈ removeSupersets X, subsetL b a = true) ∧
    Anti (removeSupersets X) := by
  -- what the sort is for: a later set `b` is at least as long as an earlier `a`, so if `b ⊆ a` then, `b` being
  -- duplicate-free, `a ⊆ b` as well (`nodup_subset_full`); this is the hypothesis `hs` of the filtering pass
  have hs : (sortByLen X).Pairwise fun a b => subsetL b a = true → subsetL a b = true :=
    (sortByLen_sorted X).imp_of_mem fun {a b} _ hb (hlen : a.length ≤ b.length) hsub =>
      subsetL_iff.mpr (nodup_subset_full (hnd b ((mem_sortByLen X b).mp hb)) (subsetL_iff.mp hsub) hlen)
  obtain ⟨h1, h2, h3⟩ := removeSupersetsAux_spec (sortByLen X) [] List.Pairwise.nil hs
  exact ⟨fun s hs => (mem_sortByLen X s).mp (h1 s hs), fun a ha => h2 a ((mem_sortByLen X a).mpr ha), h3⟩

/-- an antichain consists of its own minimal elements, and these are the minimal input sets, as every input set has a
subset in the result -/
theorem mem_removeSupersets (X : List (List Cond)) (hnd : ∀ s ∈ X, s.Nodup)
    (hanti : ∀ a b, a ∈ X → b ∈ X → subsetL a b = true → subsetL b a = true → a = b) (s : List Cond) :
    s ∈ removeSupersets X ↔ s ∈ X ∧ ∀ t ∈ X, subsetL t s = true → t = s := by
  obtain ⟨h1, h2, h3⟩ := removeSupersets_spec X hnd
  exact Iff.trans ⟨fun hs => ⟨hs, fun t ht => anti_eq_of_subset h3 ht hs⟩, And.left⟩
    (minimal_iff_of_cover (le := fun a b => subsetL a b = true) (fun _ _ _ => subsetL_trans) hanti h1 h2 s)

end InfOCF
