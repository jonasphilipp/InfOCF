import InfOCFModel.CRep
/-!
# Certificates for the answer True of c-inference

`specC Ω D q` quantifies over *all* impact assignments. To have the direction "the code answers True,
and indeed no c-representation rejects the query" checked by Lean on concrete inputs (instead of resting on
an SMT solver's `unsat`), this file defines an executable checker for refutation certificates:

* the compiled system of C05 is a conjunction, over the conditionals `i` of `D`, of
  `∃ S ∈ vMin_i ∀ T ∈ fMin_i, Σ_S η < η_i + Σ_T η`, and the negated query is
  `∃ T ∈ fMin_q ∀ S ∈ vMin_q, Σ_T η ≤ Σ_S η`;
* for **every** choice of the existentials (`choices`, enumerated by the checker itself) the remaining
  system of homogeneous linear inequalities over `η ≥ 0` must be refuted by a non-negative combination
  (`CLeaf`: one multiplier per inequality) whose strict part is non-zero and whose right-hand side is
  dominated coefficient-wise by its left-hand side (`farkasOK`).

The multipliers are found outside Lean (an LP / SMT search in the harness); only their check is trusted.
`C05_cert_sound` (Props/C05cert.lean) proves that an accepted certificate implies `specC`.
-/
namespace InfOCF

/-- coefficient of `c` in the indicator form of the set `s` -/
def ind (s : List Cond) (c : Cond) : Nat := if s.contains c then 1 else 0

/-- value of the linear form with coefficients `f` over the conditionals of `D` -/
def valF (D : List Cond) (imp : Cond → Nat) (f : Cond → Nat) : Nat := sumL (D.map fun c => f c * imp c)

/-- a linear inequality `lhs < rhs` (strict) or `lhs ≤ rhs` between two forms -/
structure Ineq where
  lhs : Cond → Nat
  rhs : Cond → Nat
  strict : Bool

def Ineq.holds (D : List Cond) (imp : Cond → Nat) (e : Ineq) : Prop :=
  if e.strict then valF D imp e.lhs < valF D imp e.rhs else valF D imp e.lhs ≤ valF D imp e.rhs

/-- coefficient of `c` in the weighted sum of the left-hand sides -/
def totL (L : List (Nat × Ineq)) (c : Cond) : Nat := sumL (L.map fun p => p.1 * p.2.lhs c)
/-- coefficient of `c` in the weighted sum of the right-hand sides -/
def totR (L : List (Nat × Ineq)) (c : Cond) : Nat := sumL (L.map fun p => p.1 * p.2.rhs c)

/-- the weighted inequalities refute themselves: the combined right-hand side is coefficient-wise below the
combined left-hand side, and a strict inequality carries a positive weight -/
def farkasOK (D : List Cond) (L : List (Nat × Ineq)) : Bool :=
  (D.all fun c => decide (totR L c ≤ totL L c)) && (L.any fun p => p.2.strict && decide (1 ≤ p.1))

/-- one row of the compiled system: conditional, its `vMin` and `fMin` families -/
structure CRow where
  i : Cond
  V : List (List Cond)
  F : List (List Cond)

def ctab (Ω : List World) (D : List Cond) : List CRow :=
  D.map fun i => ⟨i, famMin (others D i) (Ω.filter i.ver), famMin (others D i) (Ω.filter i.fal)⟩

/-- all ways of choosing one element from each list -/
def choices {α : Type} : List (List α) → List (List α)
  | [] => [[]]
  | X :: rest => X.flatMap fun x => (choices rest).map (x :: ·)

/-- multipliers of one refutation: `bm` aligned with the rows (inner lists aligned with the row's `fMin`),
`qm` aligned with the query's `vMin` -/
structure CLeaf where
  bm : List (List Nat)
  qm : List Nat

/-- the weighted inequalities a leaf uses, for the choice `ch` (one verifying set per row) and the chosen
falsifying set `T` of the query -/
def leafIneqs (tab : List CRow) (ch : List (List Cond)) (T : List Cond) (Vq : List (List Cond)) (lf : CLeaf) :
    List (Nat × Ineq) :=
  (((tab.zip ch).zip lf.bm).flatMap fun x =>
      (x.1.1.F.zip x.2).map fun y => (y.2, (⟨ind x.1.2, fun c => ind [x.1.1.i] c + ind y.1 c, true⟩ : Ineq)))
  ++ (Vq.zip lf.qm).map fun y => (y.2, (⟨ind T, ind y.1, false⟩ : Ineq))

/-- the certificate check: the query has no falsifying world, or every choice of verifying sets (base) and
falsifying set (query) is refuted by some leaf of the pool -/
def cCertCheck (Ω : List World) (D : List Cond) (q : Cond) (pool : List CLeaf) : Bool :=
  (Ω.all fun w => !(q.fal w)) ||
  (let tab := ctab Ω D
   let Vq := famMin D (Ω.filter q.ver)
   let Fq := famMin D (Ω.filter q.fal)
   (choices (tab.map (·.V))).all fun ch => Fq.all fun T => pool.any fun lf => farkasOK D (leafIneqs tab ch T Vq lf))

end InfOCF
