import InfOCFModel.W
/-!
# Enumeration of correction sets

The contract of one MaxSAT call at the level of worlds (`Oracle`) and the blocking loop around it (`enumLoop`). The loop
only appends falsification sets of feasible worlds and ends with every feasible world blocked
(`enumLoop_spec`, an instance of the loop rule `enumLoop_induct`); hence the inclusion-minimal members of its result are
exactly `famMin` (`minimal_of_enum`).
-/
namespace InfOCF

def blockedBy (L : List Cond) (blocked : List (List Cond)) (w : World) : Bool :=
  blocked.any fun V => subsetL V (fset L w)

/-- contract of the MaxSAT oracle at the level of worlds: it returns some feasible unblocked world,
    or `none` iff there is none.  (The keys read off the model it returns include that of every conditional its
    world falsifies: `C15_falsified_violated`, `C15_getViolated_exact`; that they include no other is observed by
    the C15 check, not proved.) -/
structure Oracle (L : List Cond) (H : List World) where
  pick : List (List Cond) → Option World
  sound : ∀ b w, pick b = some w → w ∈ H ∧ blockedBy L b w = false
  complete : ∀ b, pick b = none → ∀ w ∈ H, blockedBy L b w = true

/-- the enumeration loop of `OptimizerRC2.minimal_correction_subsets` (before superset removal) -/
def enumLoop {L : List Cond} {H : List World} (o : Oracle L H) :
    Nat → List (List Cond) → List (List Cond)
  | 0, acc => acc
  | fuel + 1, acc =>
    match o.pick acc with
    | none => acc
    | some w =>
      let V := fset L w
      -- the empty set is below every set: nothing unblocked is left
      if V = [] then acc ++ [V] else enumLoop o fuel (acc ++ [V])

def unblockedCount (L : List Cond) (H : List World) (acc : List (List Cond)) : Nat :=
  (H.filter fun w => !(blockedBy L acc w)).length

theorem blockedBy_iff {L : List Cond} {acc : List (List Cond)} {w : World} :
    blockedBy L acc w = true ↔ ∃ V ∈ acc, subsetL V (fset L w) = true := List.any_eq_true

theorem blockedBy_of_subset {L : List Cond} {acc : List (List Cond)} {w w' : World}
    (h : subsetL (fset L w') (fset L w) = true) (hb : blockedBy L acc w' = true) : blockedBy L acc w = true := by
  obtain ⟨V, hV, hVs⟩ := blockedBy_iff.mp hb
  exact blockedBy_iff.mpr ⟨V, hV, subsetL_trans hVs h⟩

theorem blockedBy_concat (L : List Cond) (acc : List (List Cond)) (V : List Cond) (w : World) :
    blockedBy L (acc ++ [V]) w = (subsetL V (fset L w) || blockedBy L acc w) := by
  rw [blockedBy, List.any_append, List.any_cons, List.any_nil, Bool.or_false, Bool.or_comm]; rfl

theorem unblockedCount_lt {L : List Cond} {H : List World} (acc : List (List Cond)) (w : World)
    (hw : w ∈ H) (hb : blockedBy L acc w = false) :
    unblockedCount L H (acc ++ [fset L w]) < unblockedCount L H acc := by
  simp only [unblockedCount, blockedBy_concat, Bool.not_or, ← List.filter_filter]
  refine List.length_filter_lt_length_iff_exists.mpr ⟨w, List.mem_filter.mpr ⟨hw, ?_⟩, ?_⟩
  · rw [hb]; rfl
  · rw [subsetL_refl]; exact Bool.false_ne_true

/-- the loop rule: every recorded set is the set of a world the oracle picked, so it has whatever property `Q` those have; and
the loop stops only when every feasible world is blocked (the oracle says so, or the empty set was found), since the count of
unblocked worlds bounds the number of rounds -/
theorem enumLoop_induct {L : List Cond} {H : List World} (o : Oracle L H) {Q : List Cond → Prop}
    (step : ∀ acc w, o.pick acc = some w → Q (fset L w))
    (fuel : Nat) (acc : List (List Cond)) (hfuel : unblockedCount L H acc < fuel) (h : ∀ V ∈ acc, Q V) :
    (∀ V ∈ enumLoop o fuel acc, Q V) ∧ ∀ w ∈ H, blockedBy L (enumLoop o fuel acc) w = true := by
  fun_induction enumLoop o fuel acc with
  | case1 => exact absurd hfuel (Nat.not_lt_zero _)
  | case2 n acc hp => exact ⟨h, o.complete acc hp⟩
  | case3 n acc w hp V hnil =>
    exact ⟨List.forall_mem_append.mpr ⟨h, List.forall_mem_singleton.mpr (step acc w hp)⟩,
      fun w' _ => by rw [blockedBy_concat, hnil]; rfl⟩
  | case4 n acc w hp V hne ih =>
    obtain ⟨hwH, hwb⟩ := o.sound acc w hp
    exact ih (Nat.lt_of_lt_of_le (unblockedCount_lt acc w hwH hwb) (Nat.le_of_lt_succ hfuel))
      (List.forall_mem_append.mpr ⟨h, List.forall_mem_singleton.mpr (step acc w hp)⟩)

theorem enumLoop_spec {L : List Cond} {H : List World} (o : Oracle L H) :
    ∀ (fuel : Nat) (acc : List (List Cond)),
    unblockedCount L H acc < fuel →
    (∀ V ∈ acc, ∃ w ∈ H, fset L w = V) →
    let res := enumLoop o fuel acc
    (∀ V ∈ res, ∃ w ∈ H, fset L w = V) ∧ (∀ w ∈ H, blockedBy L res w = true) :=
  enumLoop_induct o fun acc w hp => ⟨w, (o.sound acc w hp).1, rfl⟩

theorem minimal_of_enum {L : List Cond} {H : List World} (res : List (List Cond))
    (hreal : ∀ V ∈ res, ∃ w ∈ H, fset L w = V)
    (hcov : ∀ w ∈ H, blockedBy L res w = true) (s : List Cond) :
    (s ∈ res ∧ ∀ t ∈ res, subsetL t s = true → t = s) ↔ s ∈ famMin L H := by
  -- `minimal_iff_of_cover` for inclusion, with the falsification sets of the worlds of `H` as the family: `res` consists of
  -- such sets (`hreal`) and, every world being blocked, has a member below each of them
  have hanti : ∀ a b, (∃ w ∈ H, fset L w = a) → (∃ w ∈ H, fset L w = b) →
      subsetL a b = true → subsetL b a = true → a = b := by
    rintro _ _ ⟨w, _, rfl⟩ ⟨w', _, rfl⟩; exact fset_antisymm
  have hbelow : ∀ V, (∃ w ∈ H, fset L w = V) → ∃ x, x ∈ res ∧ subsetL x V = true := by
    rintro _ ⟨w, hw, rfl⟩; exact blockedBy_iff.mp (hcov w hw)
  rw [minimal_iff_of_cover (le := fun a b => subsetL a b = true) (fun _ _ _ => subsetL_trans) hanti hreal hbelow s,
    mem_famMin]
  -- `mem_famMin` quantifies over the worlds, not over their sets
  exact and_congr_right fun _ => ⟨fun h w hw => h _ ⟨w, hw, rfl⟩, by rintro h _ ⟨w, hw, rfl⟩; exact h w hw⟩

end InfOCF
