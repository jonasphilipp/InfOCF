import InfOCFModel.CW
namespace InfOCF

/-! The cost of a set of conditionals under an impact assignment. Weighted version of the minimal-set argument: for
    non-negative impacts the least cost over a world set equals the least cost over its inclusion-minimal falsification
    sets (`min_famMin`). `cost_filter_split` takes one conditional's own impact out of a sum; `minimaEnc` is the solver
    encoding of "`mv` is the minimum". -/

def cost (imp : Cond → Nat) (S : List Cond) : Nat := sumL (S.map imp)

theorem cost_perm (f : Cond → Nat) {l1 l2 : List Cond} (h : l1.Perm l2) : cost f l1 = cost f l2 :=
  (h.map f).sum_nat

theorem cost_append (f : Cond → Nat) (a b : List Cond) : cost f (a ++ b) = cost f a + cost f b := by
  rw [cost, List.map_append]; exact sumL_append _ _

theorem cost_congr {f g : Cond → Nat} {S : List Cond} (h : ∀ c ∈ S, f c = g c) : cost f S = cost g S :=
  congrArg sumL (List.map_congr_left h)

def others (D : List Cond) (i : Cond) : List Cond := D.filter (· != i)

theorem filter_others_of_not (R : List Cond) (i : Cond) (p : Cond → Bool) (h : p i = false) :
    (others R i).filter p = R.filter p := by
  unfold others
  rw [List.filter_filter]
  refine List.filter_congr fun c _ => ?_
  cases hp : p c with
  | false => rfl
  | true => exact bne_iff_ne.mpr fun e => by rw [e, h] at hp; cases hp

/-- `R.Nodup`: `i` is counted once -/
theorem cost_filter_split (f : Cond → Nat) (p : Cond → Bool) (R : List Cond) (hR : R.Nodup) (i : Cond) (hi : i ∈ R)
    (hp : p i = true) : cost f (R.filter p) = f i + cost f ((others R i).filter p) := by
  have hperm : (R.filter p).Perm (i :: (others R i).filter p) := by
    rw [others, ← hR.erase_eq_filter, ← List.filter_cons_of_pos hp]
    exact (List.perm_cons_erase hi).filter p
  exact cost_perm f hperm

theorem cost_subset_le (imp : Cond → Nat) {L : List Cond} {w0 w : World}
    (h : subsetL (fset L w0) (fset L w) = true) : cost imp (fset L w0) ≤ cost imp (fset L w) :=
  sumL_sublist_le ((fset_sublist_of_subset h).map imp)

theorem min_famMin (imp : Cond → Nat) (L : List Cond) (H : List World) (m : Nat) :
    ((∀ w ∈ H, m ≤ cost imp (fset L w)) ∧ ∃ w ∈ H, cost imp (fset L w) ≤ m) ↔
    ((∀ s ∈ famMin L H, m ≤ cost imp s) ∧ ∃ s ∈ famMin L H, cost imp s ≤ m) := by
  constructor
  · rintro ⟨hall, w, hw, hle⟩
    refine ⟨?_, ?_⟩
    · intro s hs
      obtain ⟨w0, hw0, rfl⟩ := famMin_real hs
      exact hall w0 hw0
    · obtain ⟨s, hs, hsub⟩ := famMin_below L hw
      obtain ⟨w0, hw0, rfl⟩ := famMin_real hs
      exact ⟨_, hs, Nat.le_trans (cost_subset_le imp hsub) hle⟩
  · rintro ⟨hall, s, hs, hle⟩
    refine ⟨?_, ?_⟩
    · intro w hw
      obtain ⟨s0, hs0, hsub⟩ := famMin_below L hw
      obtain ⟨w0, hw0, rfl⟩ := famMin_real hs0
      exact Nat.le_trans (hall _ hs0) (cost_subset_le imp hsub)
    · obtain ⟨w0, hw0, rfl⟩ := famMin_real hs
      exact ⟨w0, hw0, hle⟩

/-- `minima_encoding(mv, sums)`: all `mv ≤ s` and not all `mv < s`.  For a non-empty list it pins `mv`
    to the minimum; for the empty list it is unsatisfiable (defect D4). -/
def minimaEnc (mv : Int) (sums : List Int) : Prop := (∀ s ∈ sums, mv ≤ s) ∧ ¬ (∀ s ∈ sums, mv < s)

theorem minimaEnc_nil (mv : Int) : ¬ minimaEnc mv [] := by
  intro h; exact h.2 (by intro s hs; simp at hs)

theorem minimaEnc_iff (mv : Int) (sums : List Int) :
    minimaEnc mv sums ↔ ((∀ s ∈ sums, mv ≤ s) ∧ ∃ s ∈ sums, s ≤ mv) := by
  refine and_congr_right fun _ => ⟨fun h2 => ?_, by rintro ⟨s, hs, hle⟩ hall; exact Int.not_lt.mpr hle (hall s hs)⟩
  obtain ⟨s, h⟩ := Classical.not_forall.mp h2
  obtain ⟨hs, hlt⟩ := Classical.not_imp.mp h
  exact ⟨s, hs, Int.not_lt.mp hlt⟩

end InfOCF
